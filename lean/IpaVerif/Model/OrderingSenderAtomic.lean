import IpaVerif.Model.OrderingSender
import IpaVerif.Generated.SenderAtomic
/-!
# Atomic-level model of `ipa-core/src/helpers/buffers/ordering_sender.rs`

A labelled transition system in which the accesses of `Send::poll` / `Close::poll` / `take_next` to
shared state are *separate* actions of concurrently running tasks.  One action = one access:

| action        | Rust (in program order of the poll)                                              |
|---------------|-----------------------------------------------------------------------------------|
| `load t`      | `let curr = self.next.load(Acquire)` (start of `next_op`'s loop; begins the poll)  |
| `panicTwice t`| `Ordering::Greater => panic!("attempt to write/close at index {i} twice")`         |
| `cs t`        | `Ordering::Equal`: `let res = f(&mut self.state.lock().unwrap());` — the whole state-mutex critical section: `assert!(!closed)`, `State::write` (save `write_ready` / write + wake `stream_ready`) or `State::close`; the guard is a temporary, the mutex is released at the end of this statement |
| `inc t`       | `if res.is_ready() { self.next.fetch_add(1, AcqRel) }` (+ `debug_assert_eq!`)      |
| `wake t`      | `Send::poll` only, after `next_op` returned `Ready`: `self.waiting.wake(i + 1)`     |
| `add t`       | `Ordering::Less`: `self.waiting.add(curr, i, cx.waker())` under the shard mutex; rejected ⇒ back to `load` |
| `rTake`       | `take_next`: `self.state.lock()`, `b.take(cx)` (take + wake `write_ready`, or save `stream_ready`); on `Pending` the lock is released and the poll returns |
| `rLoad`       | `take_next`, still holding the state mutex: `let next = self.next.load(Acquire)`    |
| `rWake`       | `take_next`, still holding the state mutex: `self.waiting.wake(next)`; then unlock, return `Ready(Some(v))` |

Between two actions of one task any actions of other tasks may happen, except that `cs` is
disabled while the reader holds the state mutex (`rpc ∈ {took, loaded}`).

**Memory-model assumption** (not proved, stated in props/C14.json): every action above is one atomic
step of a sequentially consistent interleaving.  This is what Rust guarantees for these accesses:
all accesses to `next` are atomic operations on one location (`load(Acquire)`,
`fetch_add(1, AcqRel)`; a single modification order; an `Acquire` load that reads the result of the
`AcqRel` increment synchronises with it), every access to a `WaitingShard` happens under that
shard's `Mutex` and every access to `State` under the state `Mutex` (critical sections on one mutex
are totally ordered and each sees the effects of the earlier ones).  A load that returns a value
older than the latest one in modification order is the same as the load having been scheduled
earlier (the model allows a task to be delayed arbitrarily between its `load` and its next action),
provided it is not older than what the task has already observed through a mutex hand-off — which
is exactly the case the `woken_at` check handles.  Import-free.
-/
namespace IpaVerif.OrderingSenderAtomic
open IpaVerif.CircularBuf IpaVerif.OrderingSender

/-- Static description of the tasks: which task ids are writer futures (`Send`/`Close`), their
index, kind and message; the id of the stream (reader) task. -/
structure Cfg where
  writer : Task → Bool
  isClose : Task → Bool
  idx : Task → Nat
  msg : Task → List Nat
  reader : Task

/-- Program counter of a writer future (`Send { i, m }` or `Close { i }`). -/
inductive Pc where
  /-- never polled -/
  | fresh
  /-- last poll returned `Pending` after `waiting.add` was accepted -/
  | waitTurn
  /-- last poll returned `Pending` from `State::write` (buffer full, waker saved in `write_ready`) -/
  | waitSpace
  /-- inside `next_op`'s loop after a rejected `add`, about to load `next` again -/
  | polling
  /-- `curr = c` has been loaded -/
  | loaded (c : Nat)
  /-- the critical section returned `Ready`, about to `fetch_add` -/
  | wrote
  /-- (`Send` only) `next` incremented, about to `waiting.wake(i + 1)` -/
  | incd
  /-- the future returned `Ready(())` -/
  | done
  | panicked
deriving Repr, BEq, DecidableEq

/-- Program counter of the stream task (`take_next`). -/
inductive RPc where
  /-- not inside `take_next` -/
  | idle
  /-- holds the state mutex, `b.take(cx)` returned the chunk `v`, about to load `next` -/
  | took (v : List Nat)
  /-- holds the state mutex, loaded `n`, about to `waiting.wake(n)` -/
  | loaded (v : List Nat) (n : Nat)
  /-- the last poll returned `Ready(None)` -/
  | finished
deriving Repr, BEq, DecidableEq

def RPc.holdsLock : RPc → Bool
  | .took _ => true
  | .loaded _ _ => true
  | _ => false

structure AState where
  /-- the shared object: `next`, `state: Mutex<State>` contents, `waiting` shards -/
  s : State
  pc : Task → Pc
  /-- `wake()` was called on the task's waker since its current/last poll began -/
  woken : Task → Bool
  rpc : RPc

inductive Act where
  | load (t : Task)
  | panicTwice (t : Task)
  | cs (t : Task)
  | add (t : Task)
  | inc (t : Task)
  | wake (t : Task)
  | rTake
  | rLoad
  | rWake
deriving Repr, BEq, DecidableEq

/-- What an action shows: a label (for the replay suite) and the wakers woken by it, in order. -/
structure Ev where
  tag : String
  woken : List Task

def upd {α : Type} (f : Task → α) (t : Task) (v : α) : Task → α := fun u => if u = t then v else f u

@[simp] theorem upd_same {α : Type} (f : Task → α) (t : Task) (v : α) : upd f t v t = v := if_pos rfl
@[simp] theorem upd_other {α : Type} (f : Task → α) {t u : Task} (v : α) (h : u ≠ t) : upd f t v u = f u :=
  if_neg h

/-- `Waker::wake` on every listed task. -/
def mark (w : Task → Bool) (l : List Task) : Task → Bool := fun u => w u || l.contains u

/-- `WaitingShard::wake` with the `woken_at` update generated from the source. -/
def shardWake (sh : Shard) (i : Nat) : Shard × List Task :=
  match wakeList i sh.wakers with
  | some (w, rest) => ({ wokenAt := Generated.SenderAtomic.wokenAtAfterWake sh.wokenAt i, wakers := rest }, [w])
  | none => ({ sh with wokenAt := Generated.SenderAtomic.wokenAtAfterWake sh.wokenAt i }, [])

/-- `WaitingShard::add` with the rejection rule generated from the source. -/
def shardAdd (sh : Shard) (current i : Nat) (w : Task) : Option Shard :=
  if Generated.SenderAtomic.addRejects current sh.wokenAt i then none
  else some { sh with wakers := (addRev ⟨i, w⟩ sh.wakers.reverse).reverse }

/-- `Waiting::wake(i)`: lock shard `(i >> 6) % 8`, `WaitingShard::wake(i)`. -/
def waitingWake (s : State) (i : Nat) : State × List Task :=
  let r := shardWake (s.shards (shardIdx i)) i
  ({ s with shards := fun k => if k = shardIdx i then r.1 else s.shards k }, r.2)

/-- `Waiting::add(curr, i, w)`. -/
def waitingAdd (s : State) (curr i : Nat) (t : Task) : Option State :=
  match shardAdd (s.shards (shardIdx i)) curr i t with
  | some sh => some { s with shards := fun k => if k = shardIdx i then sh else s.shards k }
  | none => none

def doLoad (c : Cfg) (a : AState) (t : Task) : Option (AState × Ev) :=
  if !c.writer t then none else
  match a.pc t with
  | .fresh | .waitTurn | .waitSpace =>
    -- `Future::poll` begins: wake-ups from now on count for the next poll
    some ({ a with pc := upd a.pc t (.loaded a.s.next), woken := upd a.woken t false }, ⟨s!"L{a.s.next}", []⟩)
  | .polling => some ({ a with pc := upd a.pc t (.loaded a.s.next) }, ⟨s!"L{a.s.next}", []⟩)
  | _ => none

def doPanicTwice (c : Cfg) (a : AState) (t : Task) : Option (AState × Ev) :=
  match a.pc t with
  | .loaded cu => if cu > c.idx t then some ({ a with pc := upd a.pc t .panicked }, ⟨"X", []⟩) else none
  | _ => none

/-- The closure passed to `next_op` by `Send::poll`, run under the state mutex. -/
def csSend (a : AState) (t : Task) (m : List Nat) : AState × Ev :=
  let s := a.s
  if s.buf.closed then ({ a with pc := upd a.pc t .panicked }, ⟨"X:writing on a closed stream", []⟩)
  else if !s.buf.canWrite then
    ({ a with s := { s with writeReady := some t }, pc := upd a.pc t .waitSpace }, ⟨"C:P", []⟩)
  else
    match s.buf.writeMsg m with
    | .error e => ({ a with pc := upd a.pc t .panicked }, ⟨"X:" ++ e, []⟩)
    | .ok b' =>
      let (sr, w1) := if b'.canRead then (none, s.streamReady.toList) else (s.streamReady, [])
      ({ a with s := { s with buf := b', streamReady := sr }, pc := upd a.pc t .wrote,
                woken := mark a.woken w1 }, ⟨"C:R", w1⟩)

/-- The closure passed to `next_op` by `Close::poll`. -/
def csClose (a : AState) (t : Task) : AState × Ev :=
  let s := a.s
  match s.buf.close with
  | .error e => ({ a with pc := upd a.pc t .panicked }, ⟨"X:" ++ e, []⟩)
  | .ok b' =>
    ({ a with s := { s with buf := b', streamReady := none }, pc := upd a.pc t .wrote,
              woken := mark a.woken s.streamReady.toList }, ⟨"C:R", s.streamReady.toList⟩)

def doCs (c : Cfg) (a : AState) (t : Task) : Option (AState × Ev) :=
  match a.pc t with
  | .loaded cu =>
    if cu = c.idx t ∧ a.rpc.holdsLock = false then
      some (if c.isClose t then csClose a t else csSend a t (c.msg t))
    else none
  | _ => none

def doAdd (c : Cfg) (a : AState) (t : Task) : Option (AState × Ev) :=
  match a.pc t with
  | .loaded cu =>
    if cu < c.idx t then
      match waitingAdd a.s cu (c.idx t) t with
      | some s' => some ({ a with s := s', pc := upd a.pc t .waitTurn }, ⟨"A+", []⟩)
      | none => some ({ a with pc := upd a.pc t .polling }, ⟨"A-", []⟩)
    else none
  | _ => none

def doInc (c : Cfg) (a : AState) (t : Task) : Option (AState × Ev) :=
  match a.pc t with
  | .wrote =>
    let s' : State := { a.s with next := a.s.next + 1 }
    if a.s.next ≠ c.idx t then
      -- `debug_assert_eq!(i, curr, "we just checked this")`
      some ({ a with s := s', pc := upd a.pc t .panicked }, ⟨s!"X:F{a.s.next}", []⟩)
    else
      some ({ a with s := s', pc := upd a.pc t (if c.isClose t then .done else .incd) }, ⟨s!"F{a.s.next}", []⟩)
  | _ => none

def doWake (c : Cfg) (a : AState) (t : Task) : Option (AState × Ev) :=
  match a.pc t with
  | .incd =>
    let r := waitingWake a.s (c.idx t + 1)
    some ({ a with s := r.1, pc := upd a.pc t .done, woken := mark a.woken r.2 }, ⟨"K", r.2⟩)
  | _ => none

def doRTake (c : Cfg) (a : AState) : Option (AState × Ev) :=
  if a.rpc.holdsLock then none else
  let s := a.s
  let wk := upd a.woken c.reader false
  if s.buf.canRead then
    let cw := s.buf.canWrite
    let r := s.buf.take
    let (wr, w1) := if !cw then (none, s.writeReady.toList) else (s.writeReady, [])
    some ({ a with s := { s with buf := r.1, writeReady := wr }, rpc := .took r.2, woken := mark wk w1 },
          ⟨"T=", w1⟩)
  else
    let s1 : State := { s with streamReady := some c.reader }
    if s.buf.closed then some ({ a with s := s1, rpc := .finished, woken := wk }, ⟨"T:N", []⟩)
    else some ({ a with s := s1, rpc := .idle, woken := wk }, ⟨"T:P", []⟩)

def doRLoad (a : AState) : Option (AState × Ev) :=
  match a.rpc with
  | .took v => some ({ a with rpc := .loaded v a.s.next }, ⟨s!"L{a.s.next}", []⟩)
  | _ => none

def doRWake (a : AState) : Option (AState × Ev) :=
  match a.rpc with
  | .loaded _ n =>
    let r := waitingWake a.s n
    some ({ a with s := r.1, rpc := .idle, woken := mark a.woken r.2 }, ⟨"K", r.2⟩)
  | _ => none

/-- One action; `none` = not enabled in this state. -/
def astep (c : Cfg) (a : AState) : Act → Option (AState × Ev)
  | .load t => doLoad c a t
  | .panicTwice t => doPanicTwice c a t
  | .cs t => doCs c a t
  | .add t => doAdd c a t
  | .inc t => doInc c a t
  | .wake t => doWake c a t
  | .rTake => doRTake c a
  | .rLoad => doRLoad a
  | .rWake => doRWake a

def AState.init (s : State) : AState :=
  { s, pc := fun _ => .fresh, woken := fun _ => false, rpc := .idle }

/-- States reachable by any interleaving of actions of any tasks. -/
inductive Reach (c : Cfg) (s0 : State) : AState → Prop where
  | init : Reach c s0 (AState.init s0)
  | step {a a' : AState} {act : Act} {e : Ev} : Reach c s0 a → astep c a act = some (a', e) → Reach c s0 a'

/-- Run a list of actions, concatenating the woken lists; `none` if one is not enabled. -/
def runActs (c : Cfg) (a : AState) : List Act → Option (AState × List Task)
  | [] => some (a, [])
  | act :: rest =>
    match astep c a act with
    | none => none
    | some (a', e) =>
      match runActs c a' rest with
      | none => none
      | some (a'', w) => some (a'', e.woken ++ w)

/-- The task an action belongs to (`none` = the reader). -/
def Act.task : Act → Option Task
  | .load t | .panicTwice t | .cs t | .add t | .inc t | .wake t => some t
  | _ => none

end IpaVerif.OrderingSenderAtomic
