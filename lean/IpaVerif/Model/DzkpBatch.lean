import IpaVerif.Generated.Dzkp
import IpaVerif.Generated.DzkpGDiff
/-!
Model of one prover's `ProofBatch::generate` (`validation_protocol/proof_generation.rs`, with
`prover.rs: gen_artefacts_from_recursive_step / UVValues::{from_iter, set_masks} / compute_proof(_from_uv)`)
and of the two verifiers' recomputation (`validation.rs: BatchToVerify::{generate_challenges, compute_p_and_q_r,
verify}`, `verifier.rs: compute_g_differences / recursively_compute_final_check`), for the extracted generator
`SmallProofGenerator = ProofGenerator<Fp61BitPrime, 4, 7, 3>` used for the first and the compressed proofs
(`firstL = compressedL = 4`, `firstP = compressedP = 7`: checked by `shape_ok` below against the generated constants).

The model is *generic in the field operations* (`Ops K`): the line-protocol driver runs it with the
`Fp61BitPrime` operations of `IpaVerif.PrimeField` on canonical naturals (suite `c03_batch`, compared with the real
`ProofBatch::generate` + `BatchToVerify::verify` under `TestWorld`), the theorems (`Props/C03Batch.lean`) run the
*same functions* with the operations of an arbitrary field and of `ZMod (2^61 − 1)`.

Parameters that the code obtains from outside:
* `rho lvl` — the seven PRSS values `gen_proof_shares_from_prss` draws for the proof of level `lvl`
  (the prover's `my_proof_right_share` = the right verifier's `share_of_proof_from_prover_left`);
* `mp`, `mq` — the PRSS masks (`my_p_mask` is known to the left verifier, `my_q_mask` to the right verifier);
* `H lvl left right` — `hash_to_field(compute_hash(left), compute_hash(right), L)` (SHA-256 is a parameter).
A Rust panic is `none`. Import-free (core only).
-/
namespace IpaVerif.DzkpBatch
open IpaVerif.Generated.Dzkp IpaVerif.Generated.DzkpGDiff

/-- the field operations used by the code. -/
structure Ops (K : Type) where
  zero : K
  one : K
  add : K → K → K
  sub : K → K → K
  mul : K → K → K
  inv : K → K
  ofNat : Nat → K

/-- `[F; L]`, `L = 4`. -/
structure V4 (K : Type) where
  a : K
  b : K
  c : K
  d : K

/-- `[F; P]`, `P = 7` (one proof, or one share of it). -/
structure P7 (K : Type) where
  p0 : K
  p1 : K
  p2 : K
  p3 : K
  p4 : K
  p5 : K
  p6 : K

/-- the model hard-wires `L = 4`, `P = 7`, `M = 3` for both generators: compared with the extracted constants. -/
def shape_ok : Bool :=
  firstL == 4 && compressedL == 4 && firstP == 7 && compressedP == 7 && firstM == 3 && compressedM == 3

theorem shape_ok_holds : shape_ok = true := by decide

section
variable {K : Type} (o : Ops K)

/-! ## lagrange.rs -/

def others (n i : Nat) : List Nat := (List.range n).filter (· ≠ i)

/-- `js.fold(F::ONE, |acc, j| acc * (x - F::try_from(j)))`. -/
def prodDiff (x : K) (js : List Nat) : K := js.foldl (fun acc j => o.mul acc (o.sub x (o.ofNat j))) o.one

/-- `CanonicalLagrangeDenominator::<F, N>::new().denominator[i]` (`batch_invert` = element-wise inverse). -/
def den (n i : Nat) : K := o.inv (prodDiff o (o.ofNat i) (others n i))

/-- `compute_table_row(x, denominator)[i]`. -/
def coeff (n i : Nat) (x : K) : K := o.mul (den o n i) (prodDiff o x (others n i))

/-- `LagrangeTable::<F, 4, 1>::new(den, x).eval(u)[0]` (`dot_product` accumulates from zero). -/
def eval4 (x : K) (u : V4 K) : K :=
  o.add (o.add (o.add (o.add o.zero (o.mul (coeff o 4 0 x) u.a)) (o.mul (coeff o 4 1 x) u.b))
    (o.mul (coeff o 4 2 x) u.c)) (o.mul (coeff o 4 3 x) u.d)

/-- `interpolate_at_r(zkp, x, den)` = `LagrangeTable::<F, 7, 1>::new(den, x).eval(zkp)[0]`. -/
def eval7 (x : K) (z : P7 K) : K :=
  o.add (o.add (o.add (o.add (o.add (o.add (o.add o.zero (o.mul (coeff o 7 0 x) z.p0)) (o.mul (coeff o 7 1 x) z.p1))
    (o.mul (coeff o 7 2 x) z.p2)) (o.mul (coeff o 7 3 x) z.p3)) (o.mul (coeff o 7 4 x) z.p4))
    (o.mul (coeff o 7 5 x) z.p5)) (o.mul (coeff o 7 6 x) z.p6)

/-! ## prover.rs -/

/-- `u_ex[0..L] = u; u_ex[L..] = LagrangeTable::<F, 4, 3>::from(den).eval(u)` (output points 4, 5, 6). -/
def extend (u : V4 K) : P7 K :=
  ⟨u.a, u.b, u.c, u.d, eval4 o (o.ofNat 4) u, eval4 o (o.ofNat 5) u, eval4 o (o.ofNat 6) u⟩

def zero7 : P7 K := ⟨o.zero, o.zero, o.zero, o.zero, o.zero, o.zero, o.zero⟩

/-- `proof.multiply_accumulate(&u, &v)` (component-wise). -/
def macc (acc u v : P7 K) : P7 K :=
  ⟨o.add acc.p0 (o.mul u.p0 v.p0), o.add acc.p1 (o.mul u.p1 v.p1), o.add acc.p2 (o.mul u.p2 v.p2),
   o.add acc.p3 (o.mul u.p3 v.p3), o.add acc.p4 (o.mul u.p4 v.p4), o.add acc.p5 (o.mul u.p5 v.p5),
   o.add acc.p6 (o.mul u.p6 v.p6)⟩

/-- `compute_proof_from_uv(uv, table)` = `compute_proof` of the extended chunks (for the first proof the
extension is looked up in the pre-extended tables: the same values). -/
def computeProof (cs : List (V4 K × V4 K)) : P7 K :=
  cs.foldl (fun acc c => macc o acc (extend o c.1) (extend o c.2)) (zero7 o)

/-- `gen_other_proof_share(proof, prss_share)`. -/
def sub7 (x y : P7 K) : P7 K :=
  ⟨o.sub x.p0 y.p0, o.sub x.p1 y.p1, o.sub x.p2 y.p2, o.sub x.p3 y.p3, o.sub x.p4 y.p4, o.sub x.p5 y.p5,
   o.sub x.p6 y.p6⟩

/-- `iter.collect::<UVValues<F, 4>>()`: chunks of four pairs, the last chunk zero padded. -/
def collect : List (K × K) → List (V4 K × V4 K)
  | [] => []
  | [p0] => [(⟨p0.1, o.zero, o.zero, o.zero⟩, ⟨p0.2, o.zero, o.zero, o.zero⟩)]
  | [p0, p1] => [(⟨p0.1, p1.1, o.zero, o.zero⟩, ⟨p0.2, p1.2, o.zero, o.zero⟩)]
  | [p0, p1, p2] => [(⟨p0.1, p1.1, p2.1, o.zero⟩, ⟨p0.2, p1.2, p2.2, o.zero⟩)]
  | p0 :: p1 :: p2 :: p3 :: rest => (⟨p0.1, p1.1, p2.1, p3.1⟩, ⟨p0.2, p1.2, p2.2, p3.2⟩) :: collect rest

theorem collect_length (l : List (K × K)) : (collect o l).length = (l.length + 3) / 4 := by
  fun_induction collect o l <;> simp_all <;> omega

/-- `ProverValues(uv.iter()).eval_at_r(table_r)`: the next level's `(u, v)` values. -/
def nextUV (cs : List (V4 K × V4 K)) (r : K) : List (K × K) := cs.map fun c => (eval4 o r c.1, eval4 o r c.2)

/-- `set_masks` on the first chunk: `u[L−1] = u[0]; u[0] = mask`. -/
def maskFirst (c : V4 K × V4 K) (mp mq : K) : V4 K × V4 K :=
  (⟨mp, c.1.b, c.1.c, c.1.a⟩, ⟨mq, c.2.b, c.2.c, c.2.a⟩)

/-- the `while !did_set_masks` loop of `ProofBatch::generate`, from level `lvl` on; returns the left shares
(`my_proofs_left_shares`) of the proofs it generates. `uv` = the current `uv_values` (as a flat list; `uv.length`
= `uv_values.len()`). `none` = `set_masks` on an empty vector (index out of bounds). -/
def loop (rho : Nat → P7 K) (H : Nat → P7 K → P7 K → K) (mp mq : K) (lvl : Nat) (uv : List (K × K)) :
    Option (List (P7 K)) :=
  if _h : uv.length < 4 then
    match collect o uv with
    | [] => none
    | c :: rest => some [sub7 o (computeProof o (maskFirst c mp mq :: rest)) (rho lvl)]
  else
    let cs := collect o uv
    let left := sub7 o (computeProof o cs) (rho lvl)
    (loop rho H mp mq (lvl + 1) (nextUV o cs (H lvl left (rho lvl)))).map (left :: ·)
termination_by uv.length
decreasing_by
  simp only [nextUV, List.length_map, collect_length]
  omega

/-- `ProofBatch::generate(ctx, ids, uv_inputs)`: `inFirst` is what `uv_inputs.extrapolate_y_values` iterates
over (first proof), `inRec` what `uv_inputs.eval_at_r` iterates over (an honest prover passes one input, cloned).
Returns `my_batch_left_shares` (first proof first). `none` = "Proof batch is too large" or the empty-batch panic. -/
def generate (inFirst inRec : List (V4 K × V4 K)) (rho : Nat → P7 K) (H : Nat → P7 K → P7 K → K) (mp mq : K) :
    Option (List (P7 K)) :=
  let left0 := sub7 o (computeProof o inFirst) (rho 0)
  let uv := nextUV o inRec (H 0 left0 (rho 0))
  if uv.length > maxUvValues then none else
  (loop o rho H mp mq 1 uv).map (left0 :: ·)

/-! ## verifier.rs -/

/-- `compute_sum_share::<F, 4, 7>`. -/
def sumShare (z : P7 K) : K := o.add (o.add (o.add (o.add o.zero z.p0) z.p1) z.p2) z.p3
/-- `compute_final_sum_share::<F, 4, 7>` (skips the mask slot). -/
def finalSumShare (z : P7 K) : K := o.add (o.add (o.add o.zero z.p1) z.p2) z.p3

/-- one link of the `expected_sums` chain of `compute_g_differences` (links and their order: generated). -/
def expItem (first : P7 K) (zkps : List (P7 K)) (c0 : K) (ctail : List K) (sumOfUv : K) : Exp → List K
  | .sumOfUv => [sumOfUv]
  | .firstAtC0 => [eval7 o c0 first]
  | .zkpsAtTail => List.zipWith (fun c z => eval7 o c z) ctail zkps

/-- one link of the `g_sums` chain. -/
def gsItem (first : P7 K) (zinit : List (P7 K)) (zlast : P7 K) (ptq : K) : GS → List K
  | .firstSum => [sumShare o first]
  | .initSums => zinit.map (sumShare o)
  | .lastFinalSum => [finalSumShare o zlast]
  | .pTimesQ => [ptq]

/-- `compute_g_differences::<F, 7, 4, 7, 4>(first_zkp, zkps, challenges, sum_of_uv, p_times_q)`;
`none` = panic (`challenges[0]` on an empty slice, `zkps.len() - 1` / `zkps.last().unwrap()` on an empty vector). -/
def gDiff (first : P7 K) (zkps : List (P7 K)) (chs : List K) (sumOfUv ptq : K) : Option (List K) :=
  match chs, zkps.getLast? with
  | c0 :: ctail, some zlast =>
      let expected := expectedChain.flatMap (expItem o first zkps c0 ctail sumOfUv)
      let gsums := gChain.flatMap (gsItem o first zkps.dropLast zlast ptq)
      some (List.zipWith (fun g e => if diffIsGMinusE then o.sub g e else o.sub e g) gsums expected)
  | _, _ => none

/-- `chunk_array::<4>()`: chunks of four, the last one padded with `F::default()` = zero. -/
def chunk4 : List K → List (V4 K)
  | [] => []
  | [x0] => [⟨x0, o.zero, o.zero, o.zero⟩]
  | [x0, x1] => [⟨x0, x1, o.zero, o.zero⟩]
  | [x0, x1, x2] => [⟨x0, x1, x2, o.zero⟩]
  | x0 :: x1 :: x2 :: x3 :: rest => ⟨x0, x1, x2, x3⟩ :: chunk4 rest

/-- one intermediate recursion of the verifier: `recurse_u_or_v(iterator, table_r)`. -/
def recurse (vals : List K) (r : K) : List K := (chunk4 o vals).map (eval4 o r)

/-- the tail of `recursively_compute_final_check`: the `last_u_or_v_values.len() < L` assertion, the
`last_array` (`[mask, v1, v2, v0]`: consistent with the prover's `set_masks`) and its evaluation with the last table. -/
def lastStep (mask : K) (vals : List K) (rl : Option K) : Option K :=
  if vals.length ≥ 4 then none else
  match vals, rl with
  | x0 :: rest, some rl => some (eval4 o rl ⟨mask, rest.getD 0 o.zero, rest.getD 1 o.zero, x0⟩)
  | _, _ => none

/-- `recursively_compute_final_check::<F, 4>(input, challenges, p_or_q_0)`; `rows` = the table rows selected by
the verifier's table indices (`VerifierTableIndices`). `none` = one of the assertions / index panics. -/
def finalCheck (rows : List (V4 K)) (chs : List K) (mask : K) : Option K :=
  if ¬ (minProofRecursion ≤ chs.length ∧ chs.length ≤ maxProofRecursion) then none else
  match chs with
  | [] => none
  | c0 :: ctail =>
      lastStep o mask ((ctail.take (chs.length - 2)).foldl (recurse o) (rows.map (eval4 o c0))) ctail.getLast?

/-- `generate_challenges`: both verifiers hash their share of every proof, exchange the hashes and derive
`hash_to_field(hash_left_share, hash_right_share)` per level (`zip`: as many as both have). -/
def challengesFrom (H : Nat → P7 K → P7 K → K) (lvl : Nat) : List (P7 K) → List (P7 K) → List K
  | l :: ls, r :: rs => H lvl l r :: challengesFrom H (lvl + 1) ls rs
  | _, _ => []

def challenges (H : Nat → P7 K → P7 K → K) (left right : List (P7 K)) : List K := challengesFrom H 0 left right

/-- The two verifiers of one prover: the **left** verifier holds the received shares `left`, the `u` rows
recomputed from its own records, the mask `mp` and the claimed sum `sumOfUv`; the **right** verifier holds the
PRSS shares `right`, its `v` rows and `mq`. Returns the recombined differences
`diff_right (left verifier) + diff_left (right verifier)` that `BatchToVerify::verify` compares with zero.
`none` = a panic in either verifier. -/
def verifyDiffs (uRows vRows : List (V4 K)) (left right : List (P7 K)) (H : Nat → P7 K → P7 K → K)
    (mp mq sumOfUv : K) : Option (List K) :=
  let chs := challenges H left right
  match finalCheck o uRows chs mp, finalCheck o vRows chs mq, left, right with
  | some p, some q, l0 :: ls, r0 :: rs =>
      match gDiff o l0 ls chs sumOfUv (o.mul p q), gDiff o r0 rs chs o.zero o.zero with
      | some dr, some dl => some (List.zipWith o.add dr dl)
      | _, _ => none
  | _, _, _, _ => none

end

/-! ## the `Fp61BitPrime` instance used by the driver -/

open IpaVerif.PrimeField IpaVerif.Generated in
def natOps : Ops Nat :=
  { zero := 0, one := 1, add := fadd, sub := fsub, mul := fmul,
    inv := fun a => (invert fp61 a).getD 0, ofNat := fun n => truncateFrom fp61 n }

end IpaVerif.DzkpBatch
