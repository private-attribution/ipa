import IpaVerif.Proofs.BatcherLemmas
/-! Invariant of the C16 batcher model relating the state to the history of accepted records. -/
namespace IpaVerif.Batcher

/-- Ghost history: the records whose `validate_record` call was accepted (`notReady`/`ready`),
and the batches for which `ready` was returned. -/
structure Ghost where
  acc : List Nat := []
  closed : List Nat := []

/-- number of records of batch `b` when the total is `n`: `min(rpb, n - b*rpb)`. -/
def tcOf (n rpb b : Nat) : Nat := min rpb (n - b * rpb)

structure SlotOk (n first rpb : Nat) (acc : List Nat) (k : Nat) (bs : BatchState) : Prop where
  ctor : bs.ctor = first + k
  count : bs.pendingCount = bs.pendingRecords.count true
  bits : ∀ j, bs.pendingRecords.getD j false = true ↔ (j < rpb ∧ (first + k) * rpb + j ∈ acc)
  /-- an outstanding batch is not complete yet -/
  room : bs.pendingCount < tcOf n rpb (first + k) ∨ tcOf n rpb (first + k) = 0

structure Inv (n : Nat) (s : State) (g : Ghost) : Prop where
  rpb_pos : 0 < s.rpb
  total : s.total = .specified n ∨ s.total = .indeterminate ∨
    (s.total = .unspecified ∧ g.acc = [] ∧ g.closed = [])
  closed_iff : ∀ b, b ∈ g.closed ↔
    (b < s.firstBatch ∨ (s.firstBatch ≤ b ∧ s.batches[b - s.firstBatch]? = some none))
  live : ∀ k bs, s.batches[k]? = some (some bs) → SlotOk n s.firstBatch s.rpb g.acc k bs
  closed_all : ∀ b, b ∈ g.closed → 0 < tcOf n s.rpb b ∧ ∀ j, j < tcOf n s.rpb b → b * s.rpb + j ∈ g.acc
  acc_lt : ∀ r, r ∈ g.acc → r < n
  acc_where : ∀ r, r ∈ g.acc → r / s.rpb < s.firstBatch + s.batches.length

theorem lt_tcOf {n rpb b j : Nat} : j < tcOf n rpb b ↔ j < rpb ∧ b * rpb + j < n := by
  rw [tcOf, Nat.lt_min, Nat.lt_sub_iff_add_lt']

def Whole (n rpb : Nat) (acc : List Nat) (b : Nat) : Prop :=
  0 < tcOf n rpb b ∧ ∀ j, j < tcOf n rpb b → b * rpb + j ∈ acc

theorem forall_offsets_iff_forall_records {n rpb : Nat} (hp : 0 < rpb) (acc : List Nat) (b : Nat) :
    (∀ j, j < tcOf n rpb b → b * rpb + j ∈ acc) ↔ (∀ r', r' < n → r' / rpb = b → r' ∈ acc) := by
  constructor
  · intro h r' hr hb
    obtain ⟨e, hlt⟩ := offset_of_div hp hb
    rw [← e] at hr ⊢
    exact h _ (lt_tcOf.2 ⟨hlt, hr⟩)
  · intro h j hj
    obtain ⟨h1, h2⟩ := lt_tcOf.1 hj
    exact h _ h2 (div_offset _ _ _ h1)

theorem count_eq_tcOf_iff {bits : List Bool} {acc : List Nat} {n rpb bi : Nat}
    (hbits : ∀ j, bits.getD j false = true ↔ (j < rpb ∧ bi * rpb + j ∈ acc)) (hlt : ∀ x, x ∈ acc → x < n) :
    bits.count true ≤ tcOf n rpb bi ∧
      (bits.count true = tcOf n rpb bi ↔ ∀ j, j < tcOf n rpb bi → bi * rpb + j ∈ acc) := by
  have hbound : ∀ j, tcOf n rpb bi ≤ j → bits.getD j false = false := by
    intro j hj
    cases hv : bits.getD j false with
    | false => rfl
    | true =>
      obtain ⟨h1, h2⟩ := (hbits j).1 hv
      exact absurd (lt_tcOf.2 ⟨h1, hlt _ h2⟩) (Nat.not_lt_of_ge hj)
  obtain ⟨hle, hiff⟩ := count_true_of_false_from _ _ hbound
  exact ⟨hle, hiff.trans (forall_congr' fun j => imp_congr_right fun hj =>
    (hbits j).trans (and_iff_right (lt_tcOf.1 hj).1))⟩

theorem inv_new (n rpb tps : Nat) (h : 0 < rpb) (t : Total)
    (ht : t = .specified n ∨ t = .indeterminate ∨ t = .unspecified) : Inv n (State.new rpb t tps) {} where
  rpb_pos := h
  total := ht.imp_right (·.imp_right fun e => ⟨e, rfl, rfl⟩)
  closed_iff b := ⟨fun hb => (List.not_mem_nil hb).elim,
    fun hb => hb.elim (fun h => absurd h (Nat.not_lt_zero b)) fun h => nomatch List.getElem?_nil.symm.trans h.2⟩
  live _ _ hk := nomatch List.getElem?_nil.symm.trans hk
  closed_all _ hb := (List.not_mem_nil hb).elim
  acc_lt _ hr := (List.not_mem_nil hr).elim
  acc_where _ hr := (List.not_mem_nil hr).elim

theorem inv_extend {n s g} (hI : Inv n s g) (off : Nat) : Inv n (extend s off) g := by
  refine ⟨hI.rpb_pos, hI.total, fun b => ?_, fun k bs hk => ?_, hI.closed_all, hI.acc_lt, fun r hr => ?_⟩
  · show b ∈ g.closed ↔
      (b < s.firstBatch ∨ (s.firstBatch ≤ b ∧ (extend s off).batches[b - s.firstBatch]? = some none))
    rw [hI.closed_iff b, extend_get]
    split
    · rfl
    · next h =>
      rw [List.getElem?_eq_none (Nat.le_of_not_lt h)]
      split <;> exact or_congr_right (and_congr_right fun _ => ⟨nofun, nofun⟩)
  · rw [extend_get] at hk
    split at hk
    · exact hI.live k bs hk
    · next hlen =>
      split at hk
      · -- a fresh batch: no bit set, and no accepted record lies beyond the old deque
        obtain rfl := Option.some.inj (Option.some.inj hk)
        refine ⟨rfl, by show 0 = List.count true (List.replicate _ false); rw [List.count_replicate]; rfl,
          fun j => ?_, (Nat.eq_zero_or_pos _).symm⟩
        show (List.replicate _ false).getD j false = true ↔ j < s.rpb ∧ (s.firstBatch + k) * s.rpb + j ∈ g.acc
        rw [show (List.replicate _ false).getD j false = false from getD_append_replicate [] _ j]
        refine ⟨nofun, fun ⟨hj, hm⟩ => ?_⟩
        have := hI.acc_where _ hm
        rw [div_offset _ _ _ hj] at this
        exact absurd (Nat.lt_of_add_lt_add_left this) hlen
      · cases hk
  · show r / s.rpb < s.firstBatch + (extend s off).batches.length
    rw [extend_length]
    exact Nat.lt_of_lt_of_le (hI.acc_where r hr) (Nat.add_le_add_left (Nat.le_max_left _ _) _)

theorem slotOk_other {n first rpb : Nat} {acc acc' : List Nat} {k off : Nat} {bs : BatchState}
    (h : SlotOk n first rpb acc k bs) (hk : k ≠ off)
    (hsub : ∀ x, x ∈ acc → x ∈ acc')
    (hnew : ∀ x, x ∈ acc' → x ∈ acc ∨ x / rpb = first + off) : SlotOk n first rpb acc' k bs := by
  refine ⟨h.ctor, h.count, fun j => ?_, h.room⟩
  rw [h.bits j]
  refine ⟨fun ⟨a, b⟩ => ⟨a, hsub _ b⟩, fun ⟨a, b⟩ => ⟨a, (hnew _ b).resolve_right fun h1 => ?_⟩⟩
  rw [div_offset _ _ _ a] at h1
  exact hk (Nat.add_left_cancel h1)

theorem inv_setSlot {n s g off b} (hI : Inv n s g) (hslot : s.batches[off]? = some (some b))
    (v : Option BatchState) (g' : Ghost)
    (hsub : ∀ x, x ∈ g.acc → x ∈ g'.acc)
    (hnew : ∀ x, x ∈ g'.acc → x ∈ g.acc ∨ (x < n ∧ x / s.rpb = s.firstBatch + off))
    (htot : g' = g ∨ s.total = .specified n)
    (hclosed : ∀ b0, b0 ∈ g'.closed ↔ b0 ∈ g.closed ∨ (b0 = s.firstBatch + off ∧ v = none))
    (hsome : ∀ b', v = some b' → SlotOk n s.firstBatch s.rpb g'.acc off b')
    (hnone : v = none → Whole n s.rpb g'.acc (s.firstBatch + off)) :
    Inv n (setSlot s off v) g' := by
  have hoff := lt_of_getElem? hslot
  refine ⟨hI.rpb_pos, ?_, fun b0 => ?_, fun k bs hk => ?_, fun b0 hb0 => ?_, fun r hr => ?_, fun r hr => ?_⟩
  · rcases htot with rfl | h
    · exact hI.total
    · exact Or.inl h
  · show b0 ∈ g'.closed ↔
      (b0 < s.firstBatch ∨ (s.firstBatch ≤ b0 ∧ (setSlot s off v).batches[b0 - s.firstBatch]? = some none))
    rw [hclosed, hI.closed_iff b0, setSlot_get]
    by_cases h : off = b0 - s.firstBatch
    · rw [if_pos ⟨h, hoff⟩, ← h, hslot]
      constructor
      · rintro ((h1 | ⟨_, h1⟩) | ⟨h1, rfl⟩)
        · exact Or.inl h1
        · cases h1
        · exact Or.inr ⟨h1 ▸ Nat.le_add_right _ _, rfl⟩
      · rintro (h1 | ⟨h1, h2⟩)
        · exact Or.inl (Or.inl h1)
        · exact Or.inr ⟨by omega, Option.some.inj h2⟩
    · rw [if_neg fun h' => h h'.1]
      refine ⟨fun h1 => h1.elim id fun h1 => absurd ?_ h, Or.inl⟩
      rw [h1.1, Nat.add_sub_cancel_left]
  · rw [setSlot_get] at hk
    split at hk
    · next h => obtain rfl := h.1; exact hsome bs (Option.some.inj hk)
    · next h =>
      exact slotOk_other (hI.live k bs hk) (fun e => h ⟨e.symm, hoff⟩) hsub fun x hx => (hnew x hx).imp_right (·.2)
  · rcases (hclosed b0).1 hb0 with h | ⟨rfl, hv⟩
    · obtain ⟨h1, h2⟩ := hI.closed_all b0 h
      exact ⟨h1, fun j hj => hsub _ (h2 j hj)⟩
    · exact hnone hv
  · exact (hnew r hr).elim (hI.acc_lt r) (·.1)
  · show r / s.rpb < s.firstBatch + (setSlot s off v).batches.length
    rw [setSlot_length]
    rcases hnew r hr with h | ⟨_, h⟩
    · exact hI.acc_where r h
    · rw [h]; exact Nat.add_lt_add_left hoff _

theorem inv_pop {n s g rest} (hI : Inv n s g) (hb : s.batches = none :: rest) :
    Inv n { s with batches := rest, firstBatch := s.firstBatch + 1 } g := by
  refine ⟨hI.rpb_pos, hI.total, fun b => ?_, fun k bs hk => ?_, hI.closed_all, hI.acc_lt, fun r hr => ?_⟩
  · show b ∈ g.closed ↔ (b < s.firstBatch + 1 ∨ (s.firstBatch + 1 ≤ b ∧ rest[b - (s.firstBatch + 1)]? = some none))
    rw [hI.closed_iff b, hb]
    rcases Nat.lt_trichotomy b s.firstBatch with h | rfl | h
    · exact ⟨fun _ => Or.inl (Nat.lt_succ_of_lt h), fun _ => Or.inl h⟩
    · rw [Nat.sub_self]
      exact ⟨fun _ => Or.inl (Nat.lt_succ_self _), fun _ => Or.inr ⟨Nat.le_refl _, rfl⟩⟩
    · rw [show b - s.firstBatch = b - (s.firstBatch + 1) + 1 by omega, List.getElem?_cons_succ]
      exact ⟨fun h1 => h1.elim (fun h1 => absurd h1 (Nat.lt_asymm h)) fun h1 => Or.inr ⟨h, h1.2⟩,
        fun h1 => h1.elim (fun h1 => absurd h (Nat.not_lt_of_ge (Nat.le_of_lt_succ h1)))
          fun h1 => Or.inr ⟨Nat.le_of_lt h, h1.2⟩⟩
  · obtain ⟨h1, h2, h3, h4⟩ := hI.live (k + 1) bs (by rw [hb]; exact hk)
    rw [show s.firstBatch + (k + 1) = s.firstBatch + 1 + k from Nat.add_right_comm s.firstBatch k 1] at h1 h3 h4
    exact ⟨h1, h2, h3, h4⟩
  · show r / s.rpb < s.firstBatch + 1 + rest.length
    have := hI.acc_where r hr
    rw [hb, List.length_cons] at this
    omega

theorem inv_dropNones {n : Nat} {s : State} {g : Ghost} : ∀ (l : List (Option BatchState)) (f : Nat),
    Inv n { s with batches := l, firstBatch := f } g →
    Inv n { s with batches := (dropNones l f).1, firstBatch := (dropNones l f).2 } g
  | [], _, h => h
  | some _ :: _, _, h => h
  | none :: rest, f, h => inv_dropNones rest (f + 1) (inv_pop h rfl)

theorem inv_takeFront {n : Nat} {s : State} {g' : Ghost} {b : BatchState} (hslot : s.batches[0]? = some (some b))
    (h : Inv n (setSlot s 0 none) g') :
    Inv n { s with batches := (dropNones (s.batches.drop 1) (s.firstBatch + 1)).1,
                   firstBatch := (dropNones (s.batches.drop 1) (s.firstBatch + 1)).2 } g' :=
  inv_dropNones _ _ (inv_pop (s := setSlot s 0 none) h (by
    show s.batches.set 0 none = none :: s.batches.drop 1
    cases hb : s.batches with
    | nil => rw [hb] at hslot; cases hslot
    | cons => rfl))

theorem overwrite_ok {old new t' : Total} (h : old.overwrite new = .ok t') :
    t' = new ∧ (old = .unspecified ∨ ∃ m, old = .specified m ∧ new = .indeterminate) := by
  unfold Total.overwrite at h
  split at h
  · exact ⟨(Except.ok.inj h).symm, Or.inl rfl⟩
  · cases h
  · exact ⟨(Except.ok.inj h).symm, Or.inr ⟨_, rfl, rfl⟩⟩
  · cases h

theorem setTotal_ok {s s' : State} {t} (h : setTotal s t = .ok s') :
    ∃ t', s.total.overwrite t = .ok t' ∧ s' = { s with total := t' } := by
  unfold setTotal at h
  split at h
  · next t' e => exact ⟨t', e, (Except.ok.inj h).symm⟩
  · cases h

theorem inv_setTotal {n s g s'} (hI : Inv n s g) (t : Total) (ht : ∀ m, t = .specified m → m = n)
    (h : setTotal s t = .ok s') : Inv n s' g := by
  obtain ⟨t', ho, rfl⟩ := setTotal_ok h
  obtain ⟨rfl, ho⟩ := overwrite_ok ho
  refine ⟨hI.rpb_pos, ?_, hI.closed_iff, hI.live, hI.closed_all, hI.acc_lt, hI.acc_where⟩
  show t' = _ ∨ t' = _ ∨ (t' = _ ∧ _)
  rcases ho with ho | ⟨m, _, rfl⟩
  · -- nothing was accepted while the total was unspecified
    rcases hI.total with h1 | h1 | ⟨_, h2⟩
    · rw [ho] at h1; cases h1
    · rw [ho] at h1; cases h1
    · cases t' with
      | unspecified => exact Or.inr (Or.inr ⟨rfl, h2⟩)
      | specified m => rw [ht m rfl]; exact Or.inl rfl
      | indeterminate => exact Or.inr (Or.inl rfl)
  · exact Or.inr (Or.inl rfl)

end IpaVerif.Batcher
