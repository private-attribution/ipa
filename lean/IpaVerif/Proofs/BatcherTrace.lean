import IpaVerif.Proofs.BatcherStep
/-! Histories of batcher operations and the invariant along them (C16). -/
namespace IpaVerif.Batcher

/-- The synchronous API of `Batcher`. -/
inductive Op where
  /-- `get_batch(r)` followed by pushing `x` into the batch -/
  | get (r x : Nat)
  /-- `validate_record(r, …)` (the part that runs before the returned future is polled) -/
  | validate (r : Nat)
  /-- `set_total_records(t)` -/
  | setTotal (t : Total)

inductive Out where
  | got (res : Except Panic (Nat × List Nat))
  | validated (o : VOut)
  | totalSet (res : Option Panic)

def stepOp (s : State) : Op → State × Out
  | .get r x => ((getBatchPush s r x).1, .got (getBatchPush s r x).2)
  | .validate r => ((validateRecord s r).1, .validated (validateRecord s r).2)
  | .setTotal t =>
    match setTotal s t with
    | .ok s' => (s', .totalSet none)
    | .error p => (s, .totalSet (some p))

def ghostStep (g : Ghost) : Op → Out → Ghost
  | .validate r, .validated (.notReady _) => ⟨r :: g.acc, g.closed⟩
  | .validate r, .validated (.ready b _) => ⟨r :: g.acc, b :: g.closed⟩
  | _, _ => g

/-- run a history from state `s` with history `g`. -/
def execG : State → Ghost → List Op → State × Ghost
  | s, g, [] => (s, g)
  | s, g, op :: ops => execG (stepOp s op).1 (ghostStep g op (stepOp s op).2) ops

/-- every total mentioned by `set_total_records` in the history is `n`. -/
def TotalsAgree (n : Nat) (ops : List Op) : Prop :=
  ∀ t m, Op.setTotal t ∈ ops → t = .specified m → m = n

theorem stepOp_rpb (s : State) (op : Op) : (stepOp s op).1.rpb = s.rpb := by
  cases op with
  | get r x => exact getBatchPush_rpb s r x
  | validate r => exact validateRecord_rpb s r
  | setTotal t =>
    simp only [stepOp]
    split
    · next h => exact setTotal_rpb h
    · rfl

theorem StepSpec.inv_next {n s g r s' o} (h : StepSpec n s g r (s', o)) :
    Inv n s' (ghostStep g (.validate r) (.validated o)) := by
  cases o with
  | err e => exact h
  | panic p => exact h
  | notReady b => exact h.2.2.2.2.1
  | ready b st => exact h.2.2.2.2.1

theorem inv_stepOp {n s g} (hI : Inv n s g) (op : Op)
    (ht : ∀ t m, op = .setTotal t → t = .specified m → m = n) :
    Inv n (stepOp s op).1 (ghostStep g op (stepOp s op).2) := by
  cases op with
  | get r x => exact (inv_getBatchPush hI r x).1
  | validate r => exact (validate_step hI r).inv_next
  | setTotal t =>
    simp only [stepOp]
    split
    · next h => exact inv_setTotal hI t (ht t · rfl) h
    · exact hI

theorem execG_rpb : ∀ (ops : List Op) (s : State) (g : Ghost), (execG s g ops).1.rpb = s.rpb
  | [], _, _ => rfl
  | op :: ops, s, _ => (execG_rpb ops _ _).trans (stepOp_rpb s op)

theorem inv_execG {n} : ∀ (ops : List Op) (s : State) (g : Ghost), Inv n s g → TotalsAgree n ops →
    Inv n (execG s g ops).1 (execG s g ops).2
  | [], _, _, h, _ => h
  | op :: ops, _, _, h, ht =>
    inv_execG ops _ _ (inv_stepOp h op fun t m e => ht t m (e ▸ List.mem_cons_self))
      fun t m hmem => ht t m (List.mem_cons_of_mem _ hmem)

theorem ghostStep_mono (g : Ghost) (op : Op) (o : Out) :
    (∀ x, x ∈ g.acc → x ∈ (ghostStep g op o).acc) ∧ (∀ b, b ∈ g.closed → b ∈ (ghostStep g op o).closed) := by
  unfold ghostStep
  split
  · exact ⟨fun _ => List.mem_cons_of_mem _, fun _ h => h⟩
  · exact ⟨fun _ => List.mem_cons_of_mem _, fun _ => List.mem_cons_of_mem _⟩
  · exact ⟨fun _ h => h, fun _ h => h⟩

theorem execG_mono : ∀ (ops : List Op) (s : State) (g : Ghost),
    (∀ x, x ∈ g.acc → x ∈ (execG s g ops).2.acc) ∧ (∀ b, b ∈ g.closed → b ∈ (execG s g ops).2.closed) := by
  intro ops
  induction ops with
  | nil => intro s g; exact ⟨fun _ h => h, fun _ h => h⟩
  | cons op ops ih =>
    intro s g
    obtain ⟨h1, h2⟩ := ih (stepOp s op).1 (ghostStep g op (stepOp s op).2)
    obtain ⟨h3, h4⟩ := ghostStep_mono g op (stepOp s op).2
    exact ⟨fun x hx => h1 x (h3 x hx), fun b hb => h2 b (h4 b hb)⟩

end IpaVerif.Batcher
