import IpaVerif.Proofs.C09Bytes
import IpaVerif.Model.ReportPack
/-! Lemmas on the models of `report/hybrid_info.rs` and of the field packing (`Model/ReportPack.lean`): big-endian
bytes, the NUL split, the fixed layout of the 25 bytes that follow the delimiter. -/
namespace IpaVerif.C09
open IpaVerif.Util IpaVerif.Serde IpaVerif.ReportPack

theorem split_join (fs : List (Nat × Nat)) :
    splitFields (fs.map (·.1)) (joinFields fs) = fs.map (fun f => f.2 % 2 ^ f.1) := by
  induction fs with
  | nil => rfl
  | cons f fs ih =>
    obtain ⟨w, v⟩ := f
    have hpos : 0 < 2 ^ w := Nat.two_pow_pos w
    have h1 : (v % 2 ^ w + 2 ^ w * joinFields fs) % 2 ^ w = v % 2 ^ w := by
      rw [Nat.add_mul_mod_self_left, Nat.mod_mod]
    have h2 : (v % 2 ^ w + 2 ^ w * joinFields fs) / 2 ^ w = joinFields fs := by
      rw [Nat.add_mul_div_left _ _ hpos, Nat.div_eq_of_lt (Nat.mod_lt _ hpos), Nat.zero_add]
    simp only [List.map_cons, joinFields, splitFields, h1, h2, ih]

theorem splitNul_append (d t : List Nat) (hd : ∀ b ∈ d, b ≠ 0) : splitNul (d ++ 0 :: t) = some (d, t) := by
  induction d with
  | nil => rfl
  | cons b d ih =>
    obtain ⟨hb, hd⟩ := List.forall_mem_cons.1 hd
    rw [List.cons_append, splitNul, if_neg hb, ih hd]

theorem splitNul_some (bs d t : List Nat) (h : splitNul bs = some (d, t)) : bs = d ++ 0 :: t ∧ ∀ b ∈ d, b ≠ 0 := by
  fun_induction splitNul bs generalizing d with
  | case1 => cases h
  | case2 rest => cases h; exact ⟨rfl, nofun⟩
  | case3 b rest hb d' t' hs ih =>
    cases h
    obtain ⟨e, hn⟩ := ih d' hs
    exact ⟨congrArg (b :: ·) e, List.forall_mem_cons.2 ⟨hb, hn⟩⟩
  | case4 b rest hb hs => cases h

theorem beBytes_length (v n : Nat) : (beBytes v n).length = n :=
  (List.length_reverse ..).trans (leBytes_length v n)

theorem ofBeBytes_beBytes (v n : Nat) : ofBeBytes (beBytes v n) = v % 256 ^ n := by
  rw [ofBeBytes, beBytes, List.reverse_reverse, ofLeBytes_leBytes]

theorem Bytes_reverse {bs : List Nat} (hb : Bytes bs) : Bytes bs.reverse := fun x hx => hb x (List.mem_reverse.1 hx)

theorem beBytes_ofBeBytes (bs : List Nat) (hb : Bytes bs) : beBytes (ofBeBytes bs) bs.length = bs := by
  rw [beBytes, ofBeBytes, ← List.length_reverse, leBytes_ofLeBytes _ (Bytes_reverse hb), List.reverse_reverse]

theorem ofBeBytes_lt (bs : List Nat) (hb : Bytes bs) : ofBeBytes bs < 256 ^ bs.length :=
  List.length_reverse ▸ ofLeBytes_lt _ (Bytes_reverse hb)

theorem beBytes_ofBeBytes_8 {f : List Nat} (hb : Bytes f) (hl : f.length = 8) :
    beBytes (ofBeBytes f) 8 = f ∧ ofBeBytes f < 256 ^ 8 :=
  hl ▸ ⟨beBytes_ofBeBytes f hb, ofBeBytes_lt f hb⟩

theorem convInfoEnc_eq (c : ConvInfo) : convInfoEnc c
    = c.domain ++ 0 :: c.keyId :: (beBytes c.timestamp 8 ++ (beBytes c.epsilon 8 ++ beBytes c.sensitivity 8)) := by
  simp only [convInfoEnc, List.append_assoc, List.cons_append, List.nil_append]

theorem tail_fields {k : Nat} {a b c t : List Nat} (ha : a.length = 8) (hb : b.length = 8) (hc : c.length = 8)
    (ht : t = k :: (a ++ (b ++ c))) :
    t.length = 25 ∧ (t.drop 1).take 8 = a ∧ (t.drop 9).take 8 = b ∧ (t.drop 17).take 8 = c := by
  subst ht
  refine ⟨by simp only [List.length_cons, List.length_append, ha, hb, hc], List.take_left' ha, ?_, ?_⟩
  · rw [List.drop_succ_cons, List.drop_left' ha, List.take_left' hb]
  · rw [List.drop_succ_cons, show 16 = 8 + 8 from rfl, ← List.drop_drop, List.drop_left' ha, List.drop_left' hb,
      List.take_of_length_le (Nat.le_of_eq hc)]

theorem tail_eq_fields (t : List Nat) (h : t.length = 25) :
    t = t.getD 0 0 :: ((t.drop 1).take 8 ++ ((t.drop 9).take 8 ++ (t.drop 17).take 8)) := by
  match t, h with
  | x :: xs, h =>
    have h : xs.length = 24 := Nat.succ.inj h
    have e17 : (xs.drop 16).take 8 = xs.drop 16 := List.take_of_length_le (by rw [List.length_drop, h]; decide)
    rw [List.getD_cons_zero, List.drop_succ_cons, List.drop_succ_cons, List.drop_succ_cons, List.drop_zero, e17,
      show 16 = 8 + 8 from rfl, ← List.drop_drop, List.take_append_drop, List.take_append_drop]

theorem convInfoDec_eq_ok {bs : List Nat} {c : ConvInfo} (h : convInfoDec bs = .ok c) :
    ∃ d t, bs = d ++ 0 :: t ∧ (∀ b ∈ d, b ≠ 0) ∧ utf8Valid d = true ∧ t.length = 25 ∧
      c = { keyId := t.getD 0 0, domain := d, timestamp := ofBeBytes ((t.drop 1).take 8),
            epsilon := ofBeBytes ((t.drop 9).take 8), sensitivity := ofBeBytes ((t.drop 17).take 8) } := by
  unfold convInfoDec at h
  split at h
  · cases h
  · next d t hs =>
    obtain ⟨ebs, hn⟩ := splitNul_some bs d t hs
    split at h
    · cases h
    · next hu =>
      split at h
      · cases h
      · next hl =>
        cases h
        exact ⟨d, t, ebs, hn, by simpa using hu, Decidable.of_not_not hl, rfl⟩

end IpaVerif.C09
