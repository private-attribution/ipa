import IpaVerif.Model.Dzkp
/-!
Bit-level correctness of `bits_to_table_indices` / `intermediates_to_table_indices` (C03 `indices_correct`),
for **all** inputs. The straight-line body is a 4×4 bit-matrix transpose of every nibble column of
`(b0, b1, b2, 0)`, done by two butterfly steps (2×2 blocks of single bits, then 2×2 blocks of bit pairs).
-/
namespace IpaVerif.C03
open IpaVerif.PrimeField IpaVerif.Generated IpaVerif.Generated.Dzkp IpaVerif.Dzkp

def bitN (x j : Nat) : Nat := if x.testBit j then 1 else 0

def m55 : Nat := 113427455640312821154458202477256070485
def mAA : Nat := 226854911280625642308916404954512140970
def m33 : Nat := 68056473384187692692674921486353642291
def mCC : Nat := 272225893536750770770699685945414569164

/-- the mask literals of the generated `bitsToTableIndices`: `0x55…`, `0xAA…`, `0x33…`, `0xCC…` (128 bits). -/
theorem e55 : (113427455640312821154458202477256070485 : Nat) = m55 := rfl
theorem eAA : (226854911280625642308916404954512140970 : Nat) = mAA := rfl
theorem e33 : (68056473384187692692674921486353642291 : Nat) = m33 := rfl
theorem eCC : (272225893536750770770699685945414569164 : Nat) = mCC := rfl

/-- `(a & lo) | ((b & lo) << s)` as `u128`, and `(b & hi) | ((a & hi) >> s)`. -/
def mergeLo (lo s a b : Nat) : Nat := (a &&& lo) ||| (((b &&& lo) <<< s) % 2 ^ 128)
def mergeHi (hi s a b : Nat) : Nat := (b &&& hi) ||| ((a &&& hi) >>> s)

structure Alternates (sel : Nat → Bool) (s : Nat) : Prop where
  up : ∀ k, sel (k + s) = !sel k

theorem alternates_bits : Alternates (fun k => decide (k % 2 < 1)) 1 where
  up k := by rw [Bool.eq_iff_iff]; simp only [Bool.not_eq_true', decide_eq_true_eq, decide_eq_false_iff_not]; omega

theorem alternates_pairs : Alternates (fun k => decide (k % 4 < 2)) 2 where
  up k := by rw [Bool.eq_iff_iff]; simp only [Bool.not_eq_true', decide_eq_true_eq, decide_eq_false_iff_not]; omega

theorem mask_testBit {m : Nat} {sel : Nat → Bool} (hm : m < 2 ^ 128) (h : ∀ k, k < 128 → m.testBit k = sel k) (k : Nat) :
    m.testBit k = (decide (k < 128) && sel k) := by
  by_cases hk : k < 128
  · simp only [h k hk, hk, decide_true, Bool.true_and]
  · have : m < 2 ^ k := Nat.lt_of_lt_of_le hm (Nat.pow_le_pow_right (by decide) (by omega))
    simp only [Nat.testBit_lt_two_pow this, hk, decide_false, Bool.false_and]

theorem tb55 : ∀ k, m55.testBit k = (decide (k < 128) && decide (k % 2 < 1)) := mask_testBit (by decide) (by decide +kernel)
theorem tbAA : ∀ k, mAA.testBit k = (decide (k < 128) && !decide (k % 2 < 1)) := mask_testBit (by decide) (by decide +kernel)
theorem tb33 : ∀ k, m33.testBit k = (decide (k < 128) && decide (k % 4 < 2)) := mask_testBit (by decide) (by decide +kernel)
theorem tbCC : ∀ k, mCC.testBit k = (decide (k < 128) && !decide (k % 4 < 2)) := mask_testBit (by decide) (by decide +kernel)

/-- the four `let` layers of the generated body as butterfly steps (`b3 = 0` is never loaded). -/
theorem bitsToTableIndices_eq (b0 b1 b2 : Nat) : bitsToTableIndices b0 b1 b2 =
    [mergeLo m33 2 (mergeLo m55 1 b0 b1) (mergeLo m55 1 b2 0), mergeLo m33 2 (mergeHi mAA 1 b0 b1) (mergeHi mAA 1 b2 0),
     mergeHi mCC 2 (mergeLo m55 1 b0 b1) (mergeLo m55 1 b2 0), mergeHi mCC 2 (mergeHi mAA 1 b0 b1) (mergeHi mAA 1 b2 0)] := by
  simp only [mergeLo, mergeHi, Nat.zero_and, Nat.zero_shiftLeft, Nat.zero_mod, Nat.or_zero, Nat.zero_or]
  rfl

theorem merge_swap {lo hi s : Nat} {sel : Nat → Bool} (alt : Alternates sel s)
    (hlo : ∀ k, lo.testBit k = (decide (k < 128) && sel k)) (hhi : ∀ k, hi.testBit k = (decide (k < 128) && !sel k))
    (a b : Nat) {k : Nat} (hk : sel k = true) (h' : k + s < 128) :
    (mergeLo lo s a b).testBit k = a.testBit k ∧ (mergeLo lo s a b).testBit (k + s) = b.testBit k ∧
    (mergeHi hi s a b).testBit k = a.testBit (k + s) ∧ (mergeHi hi s a b).testBit (k + s) = b.testBit (k + s) := by
  have h : k < 128 := Nat.lt_of_le_of_lt (Nat.le_add_right k s) h'
  have below : s ≤ k → sel (k - s) = false := fun hs => by
    have e := alt.up (k - s)
    rw [Nat.sub_add_cancel hs, hk] at e
    simpa using e.symm
  simp only [mergeLo, mergeHi, Nat.testBit_or, Nat.testBit_and, Nat.testBit_mod_two_pow, Nat.testBit_shiftLeft,
    Nat.testBit_shiftRight, hlo, hhi, alt.up, Nat.add_comm s, hk, h, h']
  by_cases hs : s ≤ k <;> simp [hs, below, h, hk]

theorem index_testBit (b0 b1 b2 t w i : Nat) (ht : t < 32) (hw : w < 4) (hi : i < 4) :
    ((bitsToTableIndices b0 b1 b2).getD w 0).testBit (4 * t + i) = ([b0, b1, b2].getD i 0).testBit (4 * t + w) := by
  have h3 : 4 * t + 3 < 128 := by omega
  have pairs0 := fun a b => merge_swap alternates_pairs tb33 tbCC a b (k := 4 * t) (by simp) (Nat.lt_of_succ_lt h3)
  have pairs1 := fun a b => merge_swap alternates_pairs tb33 tbCC a b (k := 4 * t + 1) (by simp) h3
  have bits0 := fun a b => merge_swap alternates_bits tb55 tbAA a b (k := 4 * t) (by simp; omega)
    (Nat.lt_of_succ_lt (Nat.lt_of_succ_lt h3))
  have bits2 := fun a b => merge_swap alternates_bits tb55 tbAA a b (k := 4 * t + 2) (by simp; omega) h3
  have four : ∀ j < 4, j = 0 ∨ j = 1 ∨ j = 2 ∨ j = 3 := by decide
  rw [bitsToTableIndices_eq]
  rcases four w hw with rfl | rfl | rfl | rfl <;> rcases four i hi with rfl | rfl | rfl | rfl <;>
    simp only [List.getD_cons_zero, List.getD_cons_succ, List.getD_nil, Nat.add_zero, Nat.add_assoc, Nat.reduceAdd,
      pairs0, pairs1, bits0, bits2, Nat.zero_testBit]

theorem emit_value (b0 b1 b2 t w : Nat) (ht : t < 32) (hw : w < 4) :
    ((((bitsToTableIndices b0 b1 b2).getD w 0 >>> (4 * t)) % 256) &&& 7) =
      bitN b0 (4 * t + w) + 2 * bitN b1 (4 * t + w) + 4 * bitN b2 (4 * t + w) := by
  have hv : ((((bitsToTableIndices b0 b1 b2).getD w 0 >>> (4 * t)) % 256) &&& 7) < 8 :=
    Nat.lt_of_le_of_lt Nat.and_le_right (by decide)
  have bits : ∀ v, v < 8 → v = bitN v 0 + 2 * bitN v 1 + 4 * bitN v 2 := by decide
  rw [bits _ hv]
  have h256 : (256 : Nat) = 2 ^ 8 := rfl
  have seven : Nat.testBit 7 0 = true ∧ Nat.testBit 7 1 = true ∧ Nat.testBit 7 2 = true := by decide
  simp only [bitN, Nat.testBit_and, h256, Nat.testBit_mod_two_pow, Nat.testBit_shiftRight,
    index_testBit b0 b1 b2 t w _ ht hw (by decide : 0 < 4), index_testBit b0 b1 b2 t w _ ht hw (by decide : 1 < 4),
    index_testBit b0 b1 b2 t w _ ht hw (by decide : 2 < 4), seven, Nat.reduceLT, decide_true, Bool.true_and,
    Bool.and_true, List.getD_cons_zero, List.getD_cons_succ]

theorem bitN_half (x h k : Nat) (hk : k < 128) : bitN (half x h) k = bitN x (128 * h + k) := by
  simp only [bitN, half, Nat.testBit_mod_two_pow, Nat.testBit_shiftRight, hk, decide_true, Bool.true_and]

theorem emitHalf_length (zs : List Nat) : (emitHalf zs).length = 128 := by
  simp [emitHalf, idxIterations]

theorem emitHalf_get (b0 b1 b2 pos : Nat) (h : pos < 128) :
    (emitHalf (bitsToTableIndices b0 b1 b2))[pos]? =
      some (bitN b0 pos + 2 * bitN b1 pos + 4 * bitN b2 pos) := by
  have := emit_value b0 b1 b2 (pos / 4) (pos % 4) (Nat.div_lt_of_lt_mul h) (Nat.mod_lt pos (by decide))
  rw [Nat.div_add_mod] at this
  simp only [emitHalf, idxIterations, idxShift, idxMask, List.getElem?_map, List.getElem?_range h, Option.map_some, this]

theorem intermediates_indices (i0 i1 i2 j : Nat) (hj : j < 256) :
    (intermediatesToTableIndices i0 i1 i2)[j]? = some (bitN i0 j + 2 * bitN i1 j + 4 * bitN i2 j) ∧
    (intermediatesToTableIndices i0 i1 i2).length = 256 := by
  refine ⟨?_, by rw [intermediatesToTableIndices, List.length_append, emitHalf_length, emitHalf_length]⟩
  unfold intermediatesToTableIndices
  by_cases h : j < 128
  · rw [List.getElem?_append_left (by rw [emitHalf_length]; exact h), emitHalf_get _ _ _ _ h]
    simp only [bitN_half _ 0 j h, Nat.mul_zero, Nat.zero_add]
  · have hj' : 128 ≤ j := Nat.le_of_not_lt h
    have h2 : j - 128 < 128 := by omega
    rw [List.getElem?_append_right (by rw [emitHalf_length]; exact hj'), emitHalf_length, emitHalf_get _ _ _ _ h2]
    simp only [bitN_half _ 1 (j - 128) h2, Nat.mul_one, Nat.add_sub_of_le hj']

end IpaVerif.C03
