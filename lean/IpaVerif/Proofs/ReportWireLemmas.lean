import IpaVerif.Model.ReportWire
/-!
Helper lemmas for `IpaVerif.Props.C10`: offsets in closed form, list slicing, `splitNul`,
UTF-8 validity of ASCII, `process` on a record given as the concatenation of its parts.
-/
namespace IpaVerif.ReportWire
open IpaVerif.Generated

@[simp] theorem bind_eq {α β : Type} (x : Outcome α) (f : α → Outcome β) : (x >>= f) = x.bind f := rfl
@[simp] theorem pure_eq {α : Type} (a : α) : (pure a : Outcome α) = .ok a := rfl
@[simp] theorem bind_ok {α β : Type} (a : α) (f : α → Outcome β) : (Outcome.ok a).bind f = f a := rfl
@[simp] theorem bind_err {α β : Type} (e : Err) (f : α → Outcome β) : (Outcome.err e : Outcome α).bind f = .err e := rfl
@[simp] theorem bind_panic {α β : Type} (t : String) (f : α → Outcome β) : (Outcome.panic t : Outcome α).bind f = .panic t := rfl

theorem bind_eq_ok {α β : Type} {x : Outcome α} {f : α → Outcome β} {b : β} (h : x.bind f = .ok b) :
    ∃ a, x = .ok a ∧ f a = .ok b := by
  cases x with
  | ok a => exact ⟨a, rfl, h⟩
  | err e => cases h
  | panic t => cases h

/-- `o.ok_or(e)?` followed by `f` -/
def orErr {α β : Type} (o : Option α) (e : Err) (f : α → Outcome β) : Outcome β :=
  match o with
  | none => .err e
  | some a => f a

theorem orErr_eq_ok {α β : Type} {o : Option α} {e : Err} {f : α → Outcome β} {b : β}
    (h : orErr o e f = .ok b) : ∃ a, o = some a ∧ f a = .ok b := by
  cases o with
  | none => cases h
  | some a => exact ⟨a, rfl, h⟩

theorem orErr_ne_panic {α β : Type} {o : Option α} {e : Err} {f : α → Outcome β} {t : String}
    (h : ∀ a, o = some a → f a ≠ .panic t) : orErr o e f ≠ .panic t := by
  cases o with
  | none => nofun
  | some a => exact h a rfl

/-- The translated offset constants in closed form. This is where every theorem of C10 depends on
the constants regenerated from `report/hybrid.rs`. -/
theorem offsets (L : Layout) (k : Kind) :
    encapMkOff L k = 0 ∧ ctMkOff L k = L.encap ∧ encapBttOff L k = L.encap + L.tag + L.mkSz ∧
    ctBttOff L k = L.encap + L.tag + L.mkSz + L.encap ∧
    keyIdOff L k = L.encap + L.tag + L.mkSz + L.encap + L.tag + L.btt k ∧
    infoOff L k = L.encap + L.tag + L.mkSz + L.encap + L.tag + L.btt k + 1 := by
  cases k <;>
  simp [encapMkOff, ctMkOff, encapBttOff, ctBttOff, keyIdOff, infoOff, Layout.btt,
    Report.Imp.encapMkOff, Report.Imp.ctMkOff, Report.Imp.encapBttOff, Report.Imp.ctBttOff,
    Report.Imp.keyIdOff, Report.Imp.infoOff,
    Report.Conv.encapMkOff, Report.Conv.ctMkOff, Report.Conv.encapBttOff, Report.Conv.ctBttOff,
    Report.Conv.keyIdOff, Report.Conv.infoOff]

structure Offsets (L : Layout) (k : Kind) : Prop where
  encapMk : encapMkOff L k = 0
  ctMk : ctMkOff L k = L.encap
  encapBtt : encapBttOff L k = ctMkOff L k + (L.mkSz + L.tag)
  ctBtt : ctBttOff L k = encapBttOff L k + L.encap
  keyId : keyIdOff L k = ctBttOff L k + (L.btt k + L.tag)
  info : infoOff L k = keyIdOff L k + 1
  ctMk_le : ctMkOff L k ≤ encapBttOff L k
  encapBtt_le : encapBttOff L k ≤ ctBttOff L k
  ctBtt_le : ctBttOff L k ≤ keyIdOff L k

theorem offsets_step (L : Layout) (k : Kind) : Offsets L k := by
  obtain ⟨o1, o2, o3, o4, o5, o6⟩ := offsets L k
  have e3 : encapBttOff L k = ctMkOff L k + (L.mkSz + L.tag) := by
    rw [o3, o2, Nat.add_comm L.mkSz, Nat.add_assoc]
  have e4 : ctBttOff L k = encapBttOff L k + L.encap := by rw [o4, o3]
  have e5 : keyIdOff L k = ctBttOff L k + (L.btt k + L.tag) := by
    rw [o5, o4, Nat.add_comm (L.btt k), Nat.add_assoc]
  exact ⟨o1, o2, e3, e4, e5, by rw [o6, o5], e3 ▸ Nat.le_add_right .., e4 ▸ Nat.le_add_right ..,
    e5 ▸ Nat.le_add_right ..⟩

/-- `&d[a..b]` as a total function -/
def fld (d : Bytes) (a b : Nat) : Bytes := (d.drop a).take (b - a)

theorem fld_length {d : Bytes} {a b : Nat} (h : b ≤ d.length) : (fld d a b).length = b - a := by
  rw [fld, List.length_take, List.length_drop]
  exact Nat.min_eq_left (Nat.sub_le_sub_right h a)

theorem fld_append {d : Bytes} {a b c : Nat} (h1 : a ≤ b) (h2 : b ≤ c) : fld d a b ++ fld d b c = fld d a c := by
  unfold fld
  rw [← Nat.sub_add_sub_cancel h2 h1, Nat.add_comm, List.take_add, List.drop_drop, Nat.add_sub_of_le h1]

theorem fld_all (d : Bytes) : fld d 0 d.length = d := by simp [fld]

theorem fld_drop {d : Bytes} {a : Nat} : fld d a d.length = d.drop a := by
  simp only [fld]
  apply List.take_of_length_le
  simp

theorem slice_ok {d : Bytes} {a b : Nat} (h1 : a ≤ b) (h2 : b ≤ d.length) : slice d a b = .ok (fld d a b) := by
  simp [slice, fld, h1, h2]

theorem index_ok {d : Bytes} {i : Nat} (h : i < d.length) : index d i = .ok d[i] := by
  simp [index, h]

theorem fromSlice_ok {n : Nat} {s : Bytes} (h : s.length = n) : fromSlice n s = .ok s := by simp [fromSlice, h]

theorem fromSlice_eq_ok {n : Nat} {s x : Bytes} (h : fromSlice n s = .ok x) : s.length = n ∧ x = s := by
  unfold fromSlice at h
  split at h
  · next hc => cases h; exact ⟨hc, rfl⟩
  · cases h

theorem slice_mid {x y z : Bytes} {a b : Nat} (ha : x.length = a) (hb : (x ++ y).length = b) :
    slice (x ++ y ++ z) a b = .ok y := by
  subst ha hb
  rw [slice_ok (by simp) (by simp)]
  simp [fld]

theorem index_mid {x z : Bytes} {v a : Nat} (ha : x.length = a) : index (x ++ [v] ++ z) a = .ok v := by
  subst ha
  rw [index_ok (by simp)]
  simp

theorem sliceFrom_append {x z : Bytes} {a : Nat} (ha : x.length = a) : sliceFrom (x ++ z) a = .ok z := by
  subst ha
  simp [sliceFrom]

theorem splitNul_some {b s r : Bytes} (h : splitNul b = some (s, r)) : b = s ++ 0 :: r ∧ 0 ∉ s := by
  induction b generalizing s with
  | nil => cases h
  | cons x xs ih =>
    rw [splitNul] at h
    split at h
    · next hx => cases h; exact ⟨hx ▸ rfl, List.not_mem_nil⟩
    · next hx =>
      split at h <;> cases h
      next s' _ heq =>
      obtain ⟨rfl, hs⟩ := ih heq
      exact ⟨rfl, fun hm => (List.mem_cons.mp hm).elim (fun e => hx e.symm) hs⟩

theorem splitNul_append {s r : Bytes} (h : 0 ∉ s) : splitNul (s ++ 0 :: r) = some (s, r) := by
  induction s with
  | nil => simp [splitNul]
  | cons x xs ih =>
    simp at h
    have hx : x ≠ 0 := fun h0 => h.1 h0.symm
    simp [splitNul, hx, ih h.2]

theorem utf8Valid_ascii {s : Bytes} (h : ∀ x ∈ s, x < 0x80) : utf8Valid s = true := by
  unfold utf8Valid
  induction s with
  | nil => rfl
  | cons x xs ih =>
    rw [utf8Go, if_pos (h x List.mem_cons_self)]
    exact ih fun y hy => h y (List.mem_cons_of_mem x hy)

/-- the metadata fields have their wire widths (8 bytes each) -/
def ConvInfo.Wf (c : ConvInfo) : Prop := c.ts.length = 8 ∧ c.eps.length = 8 ∧ c.sens.length = 8

def Info.Wf : Info → Prop
  | .imp _ => True
  | .conv c => c.Wf

theorem convInfoTail_eq : Report.convInfoTail = 25 := rfl

theorem conv_tail_parse (k : Nat) (ts eps sens : Bytes) (h1 : ts.length = 8) (h2 : eps.length = 8)
    (h3 : sens.length = 8) :
    index (k :: (ts ++ eps ++ sens)) 0 = .ok k ∧ slice (k :: (ts ++ eps ++ sens)) 1 9 = .ok ts ∧
    slice (k :: (ts ++ eps ++ sens)) 9 17 = .ok eps ∧ slice (k :: (ts ++ eps ++ sens)) 17 25 = .ok sens := by
  have l1 : ([k] ++ ts).length = 9 := by simp [h1]
  have l2 : ([k] ++ ts ++ eps).length = 17 := by simp [h1, h2]
  have l3 : ([k] ++ ts ++ eps ++ sens).length = 25 := by simp [h1, h2, h3]
  have hts := slice_mid (x := [k]) (a := 1) (z := eps ++ sens) rfl l1
  have heps := slice_mid (z := sens) l1 l2
  have hsens := slice_mid (z := []) l2 l3
  refine ⟨rfl, ?_⟩
  simpa only [List.append_assoc, List.cons_append, List.nil_append, List.append_nil] using
    And.intro hts (And.intro heps hsens)

theorem exists_conv_tail {rest : Bytes} (h : rest.length = Report.convInfoTail) :
    ∃ k ts eps sens, rest = k :: (ts ++ eps ++ sens) ∧ ts.length = 8 ∧ eps.length = 8 ∧ sens.length = 8 := by
  match rest, h with
  | k :: t, h =>
    have ht : t.length = 24 := Nat.succ.inj h
    refine ⟨k, fld t 0 8, fld t 8 16, fld t 16 24, ?_, fld_length (by omega),
      fld_length (by omega), fld_length (by omega)⟩
    rw [fld_append (by omega) (by omega), fld_append (by omega) (by omega), ← ht, fld_all]

theorem conv_tail_length (c : ConvInfo) (h : c.Wf) : c.tail.length = Report.convInfoTail := by
  obtain ⟨h1, h2, h3⟩ := h
  simp [ConvInfo.tail, h1, h2, h3, convInfoTail_eq]

structure Sized (L : Layout) (k : Kind) (e1 c1 e2 c2 : Bytes) : Prop where
  e1 : e1.length = L.encap
  c1 : c1.length = L.mkSz + L.tag
  e2 : e2.length = L.encap
  c2 : c2.length = L.btt k + L.tag

/-- The slicing accessors of `EncryptedHybrid*Report` return the parts. -/
theorem accessors {L : Layout} {k : Kind} {e1 c1 e2 c2 : Bytes} (h : Sized L k e1 c1 e2 c2) (kid : Nat)
    (ib : Bytes) :
    let d := e1 ++ c1 ++ e2 ++ c2 ++ [kid] ++ ib
    slice d (encapMkOff L k) (ctMkOff L k) = .ok e1 ∧ slice d (ctMkOff L k) (encapBttOff L k) = .ok c1 ∧
    slice d (encapBttOff L k) (ctBttOff L k) = .ok e2 ∧ slice d (ctBttOff L k) (keyIdOff L k) = .ok c2 ∧
    index d (keyIdOff L k) = .ok kid ∧ sliceFrom d (infoOff L k) = .ok ib ∧ infoOff L k ≤ d.length := by
  have o := offsets_step L k
  have l1 : e1.length = ctMkOff L k := h.e1.trans o.ctMk.symm
  have l2 : (e1 ++ c1).length = encapBttOff L k := by rw [List.length_append, l1, h.c1, o.encapBtt]
  have l3 : (e1 ++ c1 ++ e2).length = ctBttOff L k := by rw [List.length_append, l2, h.e2, o.ctBtt]
  have l4 : (e1 ++ c1 ++ e2 ++ c2).length = keyIdOff L k := by rw [List.length_append, l3, h.c2, o.keyId]
  have l5 : (e1 ++ c1 ++ e2 ++ c2 ++ [kid]).length = infoOff L k := by rw [List.length_append, l4, o.info]; rfl
  refine ⟨?_, ?_, ?_, ?_, index_mid l4, sliceFrom_append l5,
    by rw [List.length_append, l5]; exact Nat.le_add_right ..⟩
  · simpa only [List.append_assoc, List.nil_append] using
      slice_mid (x := []) (z := c1 ++ e2 ++ c2 ++ [kid] ++ ib) (o.encapMk ▸ rfl) l1
  · simpa only [List.append_assoc] using slice_mid (z := e2 ++ c2 ++ [kid] ++ ib) l1 l2
  · simpa only [List.append_assoc] using slice_mid (z := c2 ++ [kid] ++ ib) l2 l3
  · simpa only [List.append_assoc] using slice_mid (z := [kid] ++ ib) l3 l4

theorem fromBytes_evt (L : Layout) (k : Kind) (data : Bytes) :
    fromBytes L (evtByte k :: data) = fromBytesKind L k data := by
  cases k <;> rfl

theorem process_parts {K : Type} (A : AEAD K) (reg : Nat → Option K) {L : Layout} {k : Kind}
    {e1 c1 e2 c2 : Bytes} (h : Sized L k e1 c1 e2 c2) (kid : Nat) (ib : Bytes) :
    process A reg L (evtByte k :: (e1 ++ c1 ++ e2 ++ c2 ++ [kid] ++ ib)) =
      orErr (reg kid) (.noSuchKey kid) fun sk =>
      (parseInfo k ib).bind fun info =>
      orErr (A.open' sk e1 c1 info.toEncBytes) .crypt fun ptMk =>
      orErr (A.open' sk e2 c2 info.toEncBytes) .crypt fun ptBtt =>
      (fromSlice L.mkSz ptMk).bind fun ptMk =>
      (fromSlice (L.btt k) ptBtt).bind fun ptBtt =>
      if validShare (L.bttBits k) ptBtt then .ok { matchKey := ptMk, btt := ptBtt, info }
      else .err (.deser (bttField k)) := by
  obtain ⟨a1, a2, a3, a4, a5, a6, hl⟩ := accessors h kid ib
  rw [process, fromBytes_evt, fromBytesKind, if_neg (Nat.not_lt.mpr hl), bind_ok, decrypt]
  simp only [bind_eq, a1, a2, a3, a4, a5, a6, bind_ok, fromSlice_ok h.c1, fromSlice_ok h.c2]
  -- what is left are the `match`es of `decrypt`, which are `orErr`
  cases reg kid with
  | none => rfl
  | some sk =>
    refine congrArg (parseInfo k ib).bind (funext fun info => ?_)
    cases A.open' sk e1 c1 info.toEncBytes with
    | none => rfl
    | some m => cases A.open' sk e2 c2 info.toEncBytes <;> rfl

end IpaVerif.ReportWire
