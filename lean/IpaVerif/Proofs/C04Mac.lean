import IpaVerif.Model.Mac
import Mathlib.Tactic.Ring
import Mathlib.Data.List.GetD

/-!
# C04 — helper lemmas: the share-level MAC protocol refines a plaintext "value + discrepancy" semantics

Over an arbitrary commutative ring. `Rel` relates the three helpers' views (model `Model/Mac.lean`) to the
plaintext shadow `pstep`: every wire is a consistent sharing, reconstructs to its plaintext value, its MAC part
reconstructs to `r̂·value + disc`, and `Σu − (Σw)·r̂` equals the accumulated `Σ α̂_k·disc_k`.
-/
namespace IpaVerif.C04
open IpaVerif.Sharing IpaVerif.Mac IpaVerif.Generated.Mac

def ringAlg (R : Type) [CommRing R] : Alg R :=
  { zero := 0, one := 1, add := (· + ·), sub := (· - ·), mul := (· * ·), neg := (- ·) }

variable {R : Type} [CommRing R]

abbrev rec (w : World R) : R := reconstruct (ringAlg R) w
def locSum (v : Loc R) : R := v.h1 + v.h2 + v.h3
def errSum (e : Err R) : R := e.e1 + e.e2 + e.e3
def accT (rh : R) (acc : Acc R) : R := locSum acc.u - locSum acc.w * rh
def disc (rh : R) (m : MShare R) : R := rec m.rx - rh * rec m.x
def MConsistent (m : MShare R) : Prop := Consistent m.x ∧ Consistent m.rx

theorem dot_eq (a b : HShare R) :
    dotContribution (ringAlg R) a b = (a.l + a.r) * (b.l + b.r) - a.r * b.r := rfl

theorem errTotal_eq (e : Err R) : e.total (ringAlg R) = errSum e := rfl

@[simp] theorem errSum_noErr : errSum (noErr (ringAlg R)) = 0 := by
  simp only [errSum, noErr, ringAlg, add_zero]

@[simp] theorem errSum_first (a : R) : errSum ⟨a, 0, 0⟩ = a := by
  simp only [errSum, add_zero]

theorem dot_sum (a b : World R) (ha : Consistent a) (hb : Consistent b) :
    dotContribution (ringAlg R) a.h1 b.h1 + dotContribution (ringAlg R) a.h2 b.h2
      + dotContribution (ringAlg R) a.h3 b.h3 = rec a * rec b := by
  obtain ⟨ha1, ha2, ha3⟩ := ha
  obtain ⟨hb1, hb2, hb3⟩ := hb
  rw [dot_eq, dot_eq, dot_eq]
  simp only [rec, reconstruct, ringAlg, ha1, ha2, ha3, hb1, hb2, hb3]; ring

theorem share_consistent {F : Type} (A : Alg F) (x r1 r2 : F) : Consistent (share A x r1 r2) := ⟨rfl, rfl, rfl⟩

theorem rec_share (x r1 r2 : R) : rec (share (ringAlg R) x r1 r2) = x := by
  simp only [rec, reconstruct, share, ofShares, ringAlg]; ring

theorem mulE_reconstruct (ρ : Masks R) (e : Err R) {x y : World R} (hx : Consistent x) (hy : Consistent y) :
    rec (mulE (ringAlg R) ρ e x y) = rec x * rec y + errSum e := by
  obtain ⟨hx1, hx2, hx3⟩ := hx
  obtain ⟨hy1, hy2, hy3⟩ := hy
  simp only [rec, reconstruct, mulE, zLeft, ringAlg, errSum, hx1, hx2, hx3, hy1, hy2, hy3]
  ring

theorem mulE_consistent {F : Type} {A : Alg F} {ρ : Masks F} {e : Err F} {x y : World F} :
    Consistent (mulE A ρ e x y) := ⟨rfl, rfl, rfl⟩

theorem accumulate_T (rh : R) (α : World R) (m : MShare R) (acc : Mac.Acc R)
    (hα : Consistent α) (hm : MConsistent m) :
    accT rh (accumulate (ringAlg R) α m acc) = accT rh acc + rec α * disc rh m := by
  rw [disc, mul_sub, mul_left_comm, ← dot_sum α m.rx hα hm.2, ← dot_sum α m.x hα hm.1]
  simp only [accT, accumulate, contrib, uContribArgs, wContribArgs, induced, locSum, ringAlg]
  ring

theorem foldl_accumulate_T (rh : R) (coef : World R × MShare R → World R) (calls : List (World R × MShare R))
    (h : ∀ c ∈ calls, Consistent (coef c) ∧ MConsistent c.2) (acc : Mac.Acc R) :
    accT rh (calls.foldl (fun a c => accumulate (ringAlg R) (coef c) c.2 a) acc)
      = accT rh acc + (calls.map (fun c => rec (coef c) * disc rh c.2)).sum := by
  induction calls generalizing acc with
  | nil => exact (add_zero _).symm
  | cons c cs ih =>
    obtain ⟨hc, hcs⟩ := List.forall_mem_cons.mp h
    rw [List.foldl_cons, ih hcs, accumulate_T rh _ c.2 acc hc.1 hc.2, List.map_cons, List.sum_cons, add_assoc]

/-- plaintext view of a wire: its value and its MAC discrepancy `rx − r̂·x`. -/
structure PW (R : Type) where
  val : R
  disc : R

def pwOf (rh : R) (m : MShare R) : PW R := ⟨rec m.x, disc rh m⟩

theorem upgradeE_consistent (ρ : Masks R) (e' : Err R) (r : World R) {x : World R} (hx : Consistent x) :
    MConsistent (upgradeE (ringAlg R) ρ e' r x) := ⟨hx, mulE_consistent⟩

theorem pwOf_upgradeE (ρ : Masks R) (e' : Err R) {r x : World R} (hr : Consistent r) (hx : Consistent x) :
    pwOf (rec r) (upgradeE (ringAlg R) ρ e' r x) = ⟨rec x, errSum e'⟩ := by
  simp only [pwOf, disc, upgradeE, upgradeMulArgs, induced, mulE_reconstruct _ _ hx hr]
  exact congrArg (PW.mk _) (by ring)

theorem macMulE_consistent (ρ ρ' : Masks R) (e e' : Err R) (a b : MShare R) :
    MConsistent (macMulE (ringAlg R) ρ ρ' e e' a b) := ⟨mulE_consistent, mulE_consistent⟩

theorem pwOf_macMulE (rh : R) (ρ ρ' : Masks R) (e e' : Err R) {a b : MShare R} (ha : MConsistent a) (hb : MConsistent b) :
    pwOf rh (macMulE (ringAlg R) ρ ρ' e e' a b) =
      ⟨(pwOf rh a).val * (pwOf rh b).val + errSum e,
       (pwOf rh a).disc * (pwOf rh b).val + errSum e' - rh * errSum e⟩ := by
  simp only [pwOf, disc, macMulE, mainMulArgs, dupMulArgs, induced, mulE_reconstruct _ _ ha.1 hb.1,
    mulE_reconstruct _ _ ha.2 hb.1]
  exact congrArg (PW.mk _) (by ring)

theorem map2_consistent {F : Type} {f : F → F → F} {x y : World F} (hx : Consistent x) (hy : Consistent y) :
    Consistent (map2 f x y) :=
  ⟨congrArg₂ f hx.1 hy.1, congrArg₂ f hx.2.1 hy.2.1, congrArg₂ f hx.2.2 hy.2.2⟩
theorem map1_consistent {F : Type} {f : F → F} {x : World F} (hx : Consistent x) : Consistent (map1 f x) :=
  ⟨congrArg f hx.1, congrArg f hx.2.1, congrArg f hx.2.2⟩

theorem MConsistent.map2 {F : Type} {a b : MShare F} (f g : F → F → F) (ha : MConsistent a) (hb : MConsistent b) :
    MConsistent ⟨Sharing.map2 f a.x b.x, Sharing.map2 g a.rx b.rx⟩ :=
  ⟨map2_consistent ha.1 hb.1, map2_consistent ha.2 hb.2⟩
theorem MConsistent.map1 {F : Type} {a : MShare F} (f g : F → F) (ha : MConsistent a) :
    MConsistent ⟨Sharing.map1 f a.x, Sharing.map1 g a.rx⟩ :=
  ⟨map1_consistent ha.1, map1_consistent ha.2⟩

theorem zeroM_props (rh : R) : MConsistent (zeroM (ringAlg R)) ∧ rec (zeroM (ringAlg R)).x = 0 ∧ disc rh (zeroM (ringAlg R)) = 0 := by
  refine ⟨⟨⟨rfl, rfl, rfl⟩, ⟨rfl, rfl, rfl⟩⟩, ?_, ?_⟩ <;>
    simp only [zeroM, zeroS, ofShares, disc, rec, reconstruct, ringAlg, add_zero, mul_zero, sub_zero]

theorem rec_addS (x y : World R) : rec (addS (ringAlg R) x y) = rec x + rec y := by
  simp only [addS, map2, rec, reconstruct, ringAlg]; ring
theorem rec_subS (x y : World R) : rec (subS (ringAlg R) x y) = rec x - rec y := by
  simp only [subS, map2, rec, reconstruct, ringAlg]; ring
theorem rec_negS (x : World R) : rec (negS (ringAlg R) x) = - rec x := by
  simp only [negS, map1, rec, reconstruct, ringAlg]; ring
theorem rec_mulConstS (c : R) (x : World R) : rec (mulConstS (ringAlg R) c x) = rec x * c := by
  simp only [mulConstS, map1, rec, reconstruct, ringAlg]; ring

theorem pwOf_addM (rh : R) (a b : MShare R) : pwOf rh (addM (ringAlg R) a b)
    = ⟨(pwOf rh a).val + (pwOf rh b).val, (pwOf rh a).disc + (pwOf rh b).disc⟩ := by
  simp only [pwOf, disc, addM, rec_addS]
  exact congrArg (PW.mk _) (by ring)
theorem pwOf_subM (rh : R) (a b : MShare R) : pwOf rh (subM (ringAlg R) a b)
    = ⟨(pwOf rh a).val - (pwOf rh b).val, (pwOf rh a).disc - (pwOf rh b).disc⟩ := by
  simp only [pwOf, disc, subM, rec_subS]
  exact congrArg (PW.mk _) (by ring)
theorem pwOf_negM (rh : R) (a : MShare R) : pwOf rh (negM (ringAlg R) a)
    = ⟨- (pwOf rh a).val, - (pwOf rh a).disc⟩ := by
  simp only [pwOf, disc, negM, rec_negS]
  exact congrArg (PW.mk _) (by ring)
theorem pwOf_mulConstM (rh c : R) (a : MShare R) : pwOf rh (mulConstM (ringAlg R) c a)
    = ⟨(pwOf rh a).val * c, (pwOf rh a).disc * c⟩ := by
  simp only [pwOf, disc, mulConstM, rec_mulConstS]
  exact congrArg (PW.mk _) (by ring)

def pget (ws : List (PW R)) (i : Nat) : PW R := ws.getD i ⟨0, 0⟩

/-- what a gate does to the plaintext wires and to `T̂ = Σu − (Σw)·r̂`. -/
def pstep (rh : R) (ps : List (PW R) × R) : Gate R → List (PW R) × R
  | .upgrade x _ α e' =>
      (ps.1 ++ [⟨rec x, errSum e'⟩], ps.2 + rec α * errSum e')
  | .mul i j _ _ α e e' =>
      let a := pget ps.1 i
      let b := pget ps.1 j
      let d := a.disc * b.val + errSum e' - rh * errSum e
      (ps.1 ++ [⟨a.val * b.val + errSum e, d⟩], ps.2 + rec α * d)
  | .add i j => (ps.1 ++ [⟨(pget ps.1 i).val + (pget ps.1 j).val, (pget ps.1 i).disc + (pget ps.1 j).disc⟩], ps.2)
  | .sub i j => (ps.1 ++ [⟨(pget ps.1 i).val - (pget ps.1 j).val, (pget ps.1 i).disc - (pget ps.1 j).disc⟩], ps.2)
  | .neg i => (ps.1 ++ [⟨- (pget ps.1 i).val, - (pget ps.1 i).disc⟩], ps.2)
  | .mulConst i c => (ps.1 ++ [⟨(pget ps.1 i).val * c, (pget ps.1 i).disc * c⟩], ps.2)

/-- inputs and random constants of a gate are consistent replicated sharings. -/
def GateOk : Gate R → Prop
  | .upgrade x _ α _ => Consistent x ∧ Consistent α
  | .mul _ _ _ _ α _ _ => Consistent α
  | _ => True

structure Rel (rh : R) (st : St R) (ps : List (PW R) × R) : Prop where
  consistent : ∀ m ∈ st.wires, MConsistent m
  shadow : st.wires.map (pwOf rh) = ps.1
  acc_eq : accT rh st.acc = ps.2

variable {rh : R} {st : St R} {ps : List (PW R) × R}

theorem wire_consistent (h : Rel rh st ps) (i : Nat) : MConsistent (wire (ringAlg R) st i) := by
  rw [wire, List.getD_eq_getElem?_getD]
  cases hi : st.wires[i]? with
  | none => exact (zeroM_props rh).1
  | some m => exact h.consistent m (List.mem_of_getElem? hi)

/-- a wire index past the end reads the zero sharing, whose shadow is `pget`'s default `⟨0, 0⟩` -/
theorem pwOf_wire (h : Rel rh st ps) (i : Nat) : pwOf rh (wire (ringAlg R) st i) = pget ps.1 i := by
  obtain ⟨_, hzv, hzd⟩ := zeroM_props rh
  rw [← h.shadow, pget, ← show pwOf rh (zeroM (ringAlg R)) = ⟨0, 0⟩ from congrArg₂ PW.mk hzv hzd]
  exact (List.getD_map _ _ (pwOf rh)).symm

theorem rel_push (h : Rel rh st ps) {m : MShare R} {acc : Mac.Acc R} {w : PW R} {t : R} (hm : MConsistent m)
    (hw : pwOf rh m = w) (ht : accT rh acc = t) :
    Rel rh ⟨st.wires ++ [m], acc⟩ (ps.1 ++ [w], t) := by
  refine ⟨?_, ?_, ht⟩
  · simpa only [List.forall_mem_append, List.forall_mem_singleton] using And.intro h.consistent hm
  · simp only [List.map_append, List.map_cons, List.map_nil, h.shadow, hw]

theorem rel_record (h : Rel rh st ps) {α : World R} (hα : Consistent α) {m : MShare R} (hm : MConsistent m) :
    Rel rh ⟨st.wires ++ [m], accumulate (ringAlg R) α m st.acc⟩
      (ps.1 ++ [pwOf rh m], ps.2 + rec α * (pwOf rh m).disc) :=
  rel_push h hm rfl (by rw [accumulate_T rh α m st.acc hα hm, h.acc_eq]; rfl)

theorem step_rel {r : World R} (hr : Consistent r) {st : St R} {ps : List (PW R) × R} (h : Rel (rec r) st ps)
    {g : Gate R} (hg : GateOk g) :
    Rel (rec r) (step (ringAlg R) r st g) (pstep (rec r) ps g) := by
  have hc := wire_consistent h
  have hp := pwOf_wire h
  cases g with
  | upgrade x ρ α e' =>
    have := rel_record h hg.2 (upgradeE_consistent ρ e' r hg.1)
    rwa [pwOf_upgradeE ρ e' hr hg.1] at this
  | mul i j ρ ρ' α e e' =>
    have := rel_record h hg (macMulE_consistent ρ ρ' e e' (wire (ringAlg R) st i) (wire (ringAlg R) st j))
    rwa [pwOf_macMulE _ ρ ρ' e e' (hc i) (hc j), hp i, hp j] at this
  | add i j => exact rel_push h ((hc i).map2 _ _ (hc j)) (by rw [pwOf_addM, hp i, hp j]) h.acc_eq
  | sub i j => exact rel_push h ((hc i).map2 _ _ (hc j)) (by rw [pwOf_subM, hp i, hp j]) h.acc_eq
  | neg i => exact rel_push h ((hc i).map1 _ _) (by rw [pwOf_negM, hp i]) h.acc_eq
  | mulConst i c => exact rel_push h ((hc i).map1 _ _) (by rw [pwOf_mulConstM, hp i]) h.acc_eq

end IpaVerif.C04
