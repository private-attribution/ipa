import IpaVerif.Proofs.StreamsBuf
/-! C17: the two parsers that cut the input into `sz`-byte pieces, `RecordsStream` and
`BufferedBytesStream`, against specifications in terms of the concatenated bytes. -/
namespace IpaVerif.Streams

theorem chunksOf_length (sz : Nat) : ∀ (k : Nat) (R : Bytes), (chunksOf sz k R).length = k
  | 0, _ => rfl
  | k + 1, R => congrArg (· + 1) (chunksOf_length sz k (R.drop sz))

theorem chunksOf_spec (sz : Nat) : ∀ (k : Nat) (R : Bytes), k * sz ≤ R.length →
    (chunksOf sz k R).flatten = R.take (k * sz) ∧ ∀ r, r ∈ chunksOf sz k R → r.length = sz
  | 0, R, _ => ⟨by rw [Nat.zero_mul]; rfl, fun _ h => nomatch h⟩
  | k + 1, R, h => by
    rw [Nat.succ_mul] at h
    obtain ⟨i1, i2⟩ := chunksOf_spec sz k (R.drop sz) (List.length_drop ▸ Nat.le_sub_of_add_le h)
    constructor
    · rw [chunksOf, List.flatten_cons, i1, Nat.succ_mul, Nat.add_comm, List.take_add]
    · intro r hr
      rcases List.mem_cons.1 hr with h1 | h1
      · rw [h1, List.length_take]; exact Nat.min_eq_left (Nat.le_trans (Nat.le_add_left _ _) h)
      · exact i2 r h1

theorem chunksOf_take (sz : Nat) : ∀ (c : Nat) (R : Bytes), chunksOf sz c (R.take (c * sz)) = chunksOf sz c R
  | 0, _ => rfl
  | c + 1, R => by
    rw [chunksOf, chunksOf, List.take_take, List.drop_take, Nat.succ_mul, Nat.add_sub_cancel,
      Nat.min_eq_left (Nat.le_add_left _ _), chunksOf_take sz c]

theorem chunksOf_step {sz : Nat} (hsz : 0 < sz) {R : Bytes} (h : sz ≤ R.length) :
    chunksOf sz (R.length / sz) R = R.take sz :: chunksOf sz ((R.drop sz).length / sz) (R.drop sz) := by
  rw [Nat.div_eq_sub_div hsz h, List.length_drop]; rfl

def terminal (rem : Nat) (hasErr : Bool) : Item :=
  if hasErr then .errUpstream else if rem > 0 then .errTrailing rem else .done

theorem terminal_isEnd (n : Nat) (e : Bool) : (terminal n e).IsEnd := by
  unfold terminal
  repeat' apply ite_of
  all_goals exact ⟨rfl, nofun⟩

def specRecords (sz : Nat) (R : Bytes) (hasErr : Bool) : List Item :=
  (chunksOf sz (R.length / sz) R).map .record ++ [terminal (R.length % sz) hasErr]

theorem panic_not_mem_records (l : List Bytes) : Item.panic ∉ l.map .record := fun h => by
  obtain ⟨_, _, h⟩ := List.mem_map.1 h
  cases h

theorem specRecords_no_panic (sz : Nat) (R : Bytes) (e : Bool) : Item.panic ∉ specRecords sz R e := fun h =>
  (List.mem_append.1 h).elim (panic_not_mem_records _) fun h => (terminal_isEnd _ _).2 (List.mem_singleton.1 h).symm

theorem specRecords_stop {sz : Nat} {R : Bytes} (h : R.length < sz) (e : Bool) :
    specRecords sz R e = [terminal R.length e] := by
  rw [specRecords, Nat.div_eq_of_lt h, Nat.mod_eq_of_lt h]; rfl

theorem specRecords_step {sz : Nat} (hsz : 0 < sz) {R : Bytes} (h : sz ≤ R.length) (e : Bool) :
    specRecords sz R e = .record (R.take sz) :: specRecords sz (R.drop sz) e := by
  rw [specRecords, specRecords, chunksOf_step hsz h, Nat.mod_eq_sub_mod h, List.length_drop]; rfl

theorem specRecords_steps {sz : Nat} (hsz : 0 < sz) (e : Bool) : ∀ (c : Nat) (R : Bytes), c * sz ≤ R.length →
    specRecords sz R e = (chunksOf sz c R).map .record ++ specRecords sz (R.drop (c * sz)) e
  | 0, R, _ => by rw [Nat.zero_mul]; rfl
  | c + 1, R, h => by
    rw [Nat.succ_mul] at h
    rw [specRecords_step hsz (Nat.le_trans (Nat.le_add_left _ _) h) e,
      specRecords_steps hsz e c (R.drop sz) (List.length_drop ▸ Nat.le_sub_of_add_le h), List.drop_drop,
      Nat.succ_mul, Nat.add_comm]
    rfl

theorem recordsPoll_spec (batch : Bool) (sz : Nat) (hsz : 0 < sz) : ∀ (fuel : Nat) (b : BufDeque) (up : List Up),
    b.WF → up.length < fuel →
    ∃ s', s'.buf.WF ∧
      ((unread b up).length < sz ∧
        recordsPoll batch sz fuel ⟨b, up⟩ = (terminal (unread b up).length (upErr up), s') ∨
      ∃ c, 0 < c ∧ c * sz ≤ (unread b up).length ∧ (batch = false → c = 1) ∧
        recordsPoll batch sz fuel ⟨b, up⟩ =
          (if batch then .batch (chunksOf sz c (unread b up)) else .record ((unread b up).take sz), s') ∧
        unread s'.buf s'.up = (unread b up).drop (c * sz) ∧ upErr s'.up = upErr up)
  | 0, _, _, _, h => absurd h (Nat.not_lt_zero _)
  | fuel + 1, b, up, hw, hf => by
    rw [recordsPoll, if_neg (fun h => Nat.ne_of_gt hsz h.2)]
    dsimp only
    generalize hcount : (if batch = true then max 1 (b.contiguousLen / sz) else 1) = count
    have hc1 : 0 < count :=
      hcount ▸ ite_of (P := (0 < ·)) (Nat.lt_of_lt_of_le Nat.one_pos (Nat.le_max_left _ _)) Nat.one_pos
    have hcb : batch = false → count = 1 := fun hb => by subst hcount hb; rfl
    by_cases hread : count * sz ≤ b.size
    · obtain ⟨b', h1, h2, h3, -⟩ := readBytes_some hw (count * sz) (Nat.mul_pos hc1 hsz) hread
      obtain ⟨hlen, htake, hdrop⟩ := take_drop_append_of_le (hw ▸ hread) (upBytes up)
      rw [← h3] at hdrop
      refine ⟨⟨b', up⟩, h2, .inr ⟨count, hc1, hlen, hcb, ?_, hdrop.symm, rfl⟩⟩
      rw [h1]
      dsimp only
      rw [← htake, chunksOf_take]
      cases batch with
      | true => rfl
      | false => rw [hcb rfl, Nat.one_mul]; rfl
    · -- not enough data: then `count = 1` and fewer than `sz` bytes are buffered
      have hcount1 : count = 1 := by
        cases batch with
        | false => exact hcb rfl
        | true =>
          rcases Nat.le_total (b.contiguousLen / sz) 1 with h | h
          · exact hcount.symm.trans (Nat.max_eq_left h)
          · rw [← hcount, if_pos rfl, Nat.max_eq_right h] at hread
            exact absurd (Nat.le_trans (Nat.div_mul_le_self _ _) (contiguous_le hw)) hread
      subst hcount1
      rw [Nat.one_mul] at hread
      rw [Nat.one_mul, readBytes_none _ _ (.inr (Nat.lt_of_not_le hread))]
      rw [hw] at hread
      dsimp only
      match up, hf with
      | [], _ =>
        refine ⟨⟨b, []⟩, hw, .inl ?_⟩
        rw [unread, upBytes, List.append_nil, ← hw]
        exact ⟨Nat.lt_of_not_le (hw ▸ hread), rfl⟩
      | .err :: up, _ =>
        refine ⟨⟨b, up⟩, hw, .inl ?_⟩
        rw [unread, upBytes, List.append_nil]
        exact ⟨Nat.lt_of_not_le hread, rfl⟩
      | .chunk c :: up, hf =>
        have ih := recordsPoll_spec batch sz hsz fuel (b.push c) up (wf_push hw c) (Nat.lt_of_succ_lt_succ hf)
        rw [unread_push] at ih
        exact ih

/-- `view` is `flattenItems [·]` (both modes) or the identity (`Single` mode). -/
theorem recordsRun_spec (batch : Bool) (sz : Nat) (hsz : 0 < sz) (view : Item → List Item)
    (hterm : ∀ it, it.isTerminal = true → view it = [it])
    (hrecs : ∀ c R, (batch = false → c = 1) →
      view (if batch then .batch (chunksOf sz c R) else .record (R.take sz)) = (chunksOf sz c R).map .record)
    (up : List Up) :
    (records batch sz up).flatMap view = specRecords sz (upBytes up) (upErr up) := by
  refine run_spec (poll := fun s => recordsPoll batch sz (s.up.length + 1) s) (fun _ _ => rfl) view
    (fun s => s.buf.WF) (fun s => (unread s.buf s.up).length) (fun s => specRecords sz (unread s.buf s.up) (upErr s.up))
    (fun s hw => ?_) _ ⟨.empty, up⟩ wf_empty
    (Nat.lt_succ_of_le (Nat.le_succ_of_le (upBytes_le_total up)))
  obtain ⟨s', hw', ⟨hlt, hp⟩ | ⟨c, hc0, hc, hcb, hp, hr', he'⟩⟩ :=
    recordsPoll_spec batch sz hsz _ s.buf s.up hw (Nat.lt_succ_self _)
  · refine ⟨_, s', hp, hw', ?_⟩
    rw [if_pos (terminal_isEnd _ _).1, specRecords_stop hlt, hterm _ (terminal_isEnd _ _).1]
  · have hpos := Nat.mul_pos hc0 hsz
    refine ⟨_, s', hp, hw', ?_⟩
    rw [if_neg (by cases batch <;> exact Bool.false_ne_true), hr', he', hrecs c _ hcb, List.length_drop]
    exact ⟨Nat.sub_lt (Nat.lt_of_lt_of_le hpos hc) hpos, specRecords_steps hsz _ c _ hc⟩

theorem records_spec (batch : Bool) (sz : Nat) (hsz : 0 < sz) (up : List Up) :
    flattenItems (records batch sz up) = specRecords sz (upBytes up) (upErr up) := by
  rw [flattenItems_eq_flatMap]
  refine recordsRun_spec batch sz hsz _ (fun _ => flattenItems_terminal) (fun c R hcb => ?_) up
  cases batch with
  | true => exact List.append_nil _
  | false => rw [hcb rfl]; rfl

theorem records_single_spec (sz : Nat) (hsz : 0 < sz) (up : List Up) :
    records false sz up = specRecords sz (upBytes up) (upErr up) := by
  rw [← List.flatMap_singleton' (records false sz up)]
  exact recordsRun_spec false sz hsz _ (fun _ _ => rfl) (fun c R hcb => by rw [hcb rfl]; rfl) up

def specBuffered (sz : Nat) (R : Bytes) (hasErr : Bool) : List Item :=
  (chunksOf sz (R.length / sz) R).map .record ++
    (if hasErr then [.errUpstream]
     else (if R.length % sz ≠ 0 then [.record (R.drop (R.length / sz * sz))] else []) ++ [.done])

theorem specBuffered_no_panic (sz : Nat) (R : Bytes) (e : Bool) : Item.panic ∉ specBuffered sz R e := by
  intro h
  rcases List.mem_append.1 h with h | h
  · exact panic_not_mem_records _ h
  · cases e with
    | true => cases List.mem_singleton.1 h
    | false =>
      rcases List.mem_append.1 h with h | h
      · by_cases hc : R.length % sz ≠ 0
        · rw [if_pos hc] at h; cases List.mem_singleton.1 h
        · rw [if_neg hc] at h; cases h
      · cases List.mem_singleton.1 h

theorem specBuffered_step {sz : Nat} (hsz : 0 < sz) {R : Bytes} (h : sz ≤ R.length) (e : Bool) :
    specBuffered sz R e = .record (R.take sz) :: specBuffered sz (R.drop sz) e := by
  rw [specBuffered, specBuffered, chunksOf_step hsz h, List.drop_drop, Nat.mod_eq_sub_mod h, List.length_drop,
    Nat.add_comm sz, ← Nat.add_one_mul, ← Nat.div_eq_sub_div hsz h]
  rfl

theorem specBuffered_err {sz : Nat} {R : Bytes} (h : R.length < sz) : specBuffered sz R true = [.errUpstream] := by
  rw [specBuffered, Nat.div_eq_of_lt h]; rfl

theorem specBuffered_nil (sz : Nat) : specBuffered sz [] false = [.done] := by
  rw [specBuffered, List.length_nil, Nat.zero_div, Nat.zero_mod]; rfl

theorem specBuffered_last {sz : Nat} {R : Bytes} (h0 : R ≠ []) (h : R.length < sz) :
    specBuffered sz R false = [.record R, .done] := by
  rw [specBuffered, Nat.div_eq_of_lt h, Nat.mod_eq_of_lt h, if_neg Bool.false_ne_true,
    if_pos (mt List.length_eq_zero_iff.1 h0), Nat.zero_mul]
  rfl

theorem bufferedPoll_spec (sz : Nat) (hsz : 0 < sz) : ∀ (fuel : Nat) (buf : Bytes) (up : List Up), up.length < fuel →
    ∃ it s', bufferedPoll sz fuel ⟨buf, up⟩ = (it, s') ∧
      if it.isTerminal then specBuffered sz (buf ++ upBytes up) (upErr up) = [it]
      else (s'.buffer ++ upBytes s'.up).length < (buf ++ upBytes up).length ∧
        specBuffered sz (buf ++ upBytes up) (upErr up) =
          it :: specBuffered sz (s'.buffer ++ upBytes s'.up) (upErr s'.up)
  | 0, _, _, h => absurd h (Nat.not_lt_zero _)
  | fuel + 1, buf, up, hf => by
    rw [bufferedPoll]
    dsimp only
    by_cases hb : buf.length ≥ sz
    · refine ⟨_, _, if_pos hb, ?_⟩
      show (buf.drop sz ++ upBytes up).length < _ ∧ _ = _
      have hR : sz ≤ (buf ++ upBytes up).length := Nat.le_trans hb (List.length_append ▸ Nat.le_add_right _ _)
      rw [specBuffered_step hsz hR, List.take_append_of_le_length hb, List.drop_append_of_le_length hb]
      rw [List.length_append, List.length_append, List.length_drop]
      exact ⟨Nat.add_lt_add_right (Nat.sub_lt (Nat.lt_of_lt_of_le hsz hb) hsz) _, rfl⟩
    · rw [if_neg hb]
      match up, hf with
      | [], _ =>
        refine ⟨_, _, rfl, ?_⟩
        rw [upBytes, List.append_nil]
        cases buf with
        | nil => exact specBuffered_nil sz
        | cons a t => exact ⟨Nat.succ_pos _, (specBuffered_last (List.cons_ne_nil a t) (Nat.lt_of_not_le hb)).trans
            (congrArg _ (specBuffered_nil sz).symm)⟩
      | .err :: up, _ =>
        refine ⟨_, _, rfl, ?_⟩
        rw [upBytes, List.append_nil]
        exact specBuffered_err (Nat.lt_of_not_le hb)
      | .chunk c :: up, hf =>
        have ih := bufferedPoll_spec sz hsz fuel (buf ++ c) up (Nat.lt_of_succ_lt_succ hf)
        rw [List.append_assoc] at ih
        exact ih

theorem buffered_spec (sz : Nat) (hsz : 0 < sz) (up : List Up) :
    buffered sz up = specBuffered sz (upBytes up) (upErr up) := by
  rw [← List.flatMap_singleton' (buffered sz up)]
  exact run_spec (poll := fun s => bufferedPoll sz (s.up.length + 1) s) (fun _ _ => rfl) _
    (fun _ => True) (fun s => (s.buffer ++ upBytes s.up).length)
    (fun s => specBuffered sz (s.buffer ++ upBytes s.up) (upErr s.up))
    (fun s _ =>
      let ⟨it, s', hp, h⟩ := bufferedPoll_spec sz hsz _ s.buffer s.up (Nat.lt_succ_self _)
      ⟨it, s', hp, trivial, h⟩)
    _ ⟨[], up⟩ trivial (Nat.lt_succ_of_le (Nat.le_succ_of_le (upBytes_le_total up)))

end IpaVerif.Streams
