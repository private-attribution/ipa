import IpaVerif.Model.Shuffle
import IpaVerif.Proofs.Buckets
/-! Helper lemmas for `IpaVerif.Props.C05`: XOR identities, tables read entry by entry, routing is a permutation. -/
namespace IpaVerif.Shuffle

theorem xor_mask_cancel (a b m : Nat) : (a ^^^ m) ^^^ (b ^^^ m) = a ^^^ b :=
  calc (a ^^^ m) ^^^ (b ^^^ m) = (a ^^^ b) ^^^ (m ^^^ m) := by ac_rfl
    _ = a ^^^ b := by rw [Nat.xor_self, Nat.xor_zero]

theorem xor_reconstruct (a b x y : Nat) : (a ^^^ b) ^^^ ((x ^^^ b) ^^^ (y ^^^ a)) = x ^^^ y :=
  calc (a ^^^ b) ^^^ ((x ^^^ b) ^^^ (y ^^^ a)) = (x ^^^ y) ^^^ ((a ^^^ a) ^^^ (b ^^^ b)) := by ac_rfl
    _ = x ^^^ y := by rw [Nat.xor_self, Nat.xor_self, Nat.xor_zero, Nat.xor_zero]

theorem getD_zipWith {α β γ : Type} (f : α → β → γ) {a : List α} {b : List β} (h : a.length = b.length)
    (i : Nat) (da : α) (db : β) : (List.zipWith f a b).getD i (f da db) = f (a.getD i da) (b.getD i db) := by
  simp only [List.getD_eq_getElem?_getD, List.getElem?_zipWith]
  by_cases hi : i < a.length
  · rw [List.getElem?_eq_getElem hi, List.getElem?_eq_getElem (h ▸ hi)]; rfl
  · rw [List.getElem?_eq_none (Nat.le_of_not_lt hi), List.getElem?_eq_none (h ▸ Nat.le_of_not_lt hi)]; rfl

theorem length_getD_of_shape {t : Table} {sh : List Nat} (h : shape t = sh) (j : Nat) :
    (t.getD j []).length = sh.getD j 0 := by
  subst h
  simp only [shape, List.getD_eq_getElem?_getD, List.getElem?_map]
  cases t[j]? <;> rfl

theorem shape_txor {t u : Table} {sh : List Nat} (ht : shape t = sh) (hu : shape u = sh) :
    shape (txor t u) = sh := by
  subst ht
  induction t generalizing u with
  | nil => rfl
  | cons a t ih =>
    cases u with
    | nil => cases hu
    | cons b u =>
      obtain ⟨hab, htu⟩ := List.cons.inj hu
      show (List.zipWith _ a b).length :: shape (txor t u) = a.length :: shape t
      rw [ih htu, List.length_zipWith, hab, Nat.min_self]

theorem get_txor {t u : Table} {sh : List Nat} (ht : shape t = sh) (hu : shape u = sh) (p : Nat × Nat) :
    get (txor t u) p = get t p ^^^ get u p := by
  have hl : t.length = u.length := by simpa [shape] using congrArg List.length (ht.trans hu.symm)
  have hr : (t.getD p.1 []).length = (u.getD p.1 []).length := by
    rw [length_getD_of_shape ht, length_getD_of_shape hu]
  have row : (txor t u).getD p.1 [] = List.zipWith (· ^^^ ·) (t.getD p.1 []) (u.getD p.1 []) :=
    getD_zipWith _ hl p.1 [] []
  show ((txor t u).getD p.1 []).getD p.2 0 = _
  rw [row]
  exact getD_zipWith (· ^^^ ·) hr p.2 0 0

theorem table_ext {t u : Table} {sh : List Nat} (ht : shape t = sh) (hu : shape u = sh)
    (hg : ∀ p, get t p = get u p) : t = u := by
  have hs : t.map List.length = u.map List.length := ht.trans hu.symm
  refine List.ext_getElem (by simpa using congrArg List.length hs) fun j h1 h2 => ?_
  have hl : t[j].length = u[j].length := by simpa [h1, h2] using congrArg (·[j]?) hs
  refine List.ext_getElem hl fun i h3 h4 => ?_
  simpa [get, h1, h2, h3, h4] using hg (j, i)

theorem positionsFrom_get (pre t : Table) :
    (positionsFrom pre.length (shape t)).map (get (pre ++ t)) = t.flatten := by
  induction t generalizing pre with
  | nil => rfl
  | cons l rest ih =>
    simp only [shape, List.map_cons, positionsFrom, List.map_append, List.map_map, List.flatten_cons]
    congr 1
    · exact List.ext_getElem (by simp) fun i h1 h2 => by simp [get, h2]
    · simpa [shape] using ih (pre ++ [l])

structure Round.Valid (S : Nat) (ρ : Round) : Prop where
  dest_lt : ∀ j i, ρ.dest j i < S
  shuf_perm : ∀ d l, (ρ.shuf d l).Perm l

/-- every position is routed to exactly one place (C19: each record reaches its chosen shard once) -/
theorem route_perm {S : Nat} {ρ : Round} (hv : ρ.Valid S) (sh : List Nat) :
    ((route S ρ sh).flatten).Perm (positions sh) :=
  Buckets.buckets_perm_of_lt (fun p : Nat × Nat => ρ.dest p.1 p.2) ρ.shuf hv.shuf_perm (positions sh) S
    fun p _ => hv.dest_lt p.1 p.2

/-- routing without masks -/
def unmasked (S : Nat) (ρ : Round) (t : Table) : Table :=
  (route S ρ (shape t)).map (fun l => l.map (get t))

theorem shape_mas (S : Nat) (ρ : Round) (t : Table) :
    shape (maskAndShuffle S ρ t) = (route S ρ (shape t)).map List.length := by
  simp [shape, maskAndShuffle]

theorem shape_unmasked (S : Nat) (ρ : Round) (t : Table) :
    shape (unmasked S ρ t) = (route S ρ (shape t)).map List.length := by
  simp [shape, unmasked]

theorem txor_map_map {α : Type} (r : List (List α)) (f g : α → Row) :
    txor (r.map (·.map f)) (r.map (·.map g)) = r.map (·.map fun p => f p ^^^ g p) := by
  simp only [txor, List.zipWith_map, List.zipWith_self]

/-- Two helpers that share a round's randomness and hold same-shaped tables apply
the same mask to the same row and route it identically, so the masks cancel in the XOR. -/
theorem masks_aligned (S : Nat) (ρ : Round) {t u : Table} (h : shape t = shape u) :
    txor (maskAndShuffle S ρ t) (maskAndShuffle S ρ u) = unmasked S ρ (txor t u) := by
  unfold maskAndShuffle unmasked
  rw [shape_txor rfl h.symm, ← h, txor_map_map]
  refine List.map_congr_left fun l _ => List.map_congr_left fun p _ => ?_
  rw [xor_mask_cancel, get_txor rfl h.symm]

theorem unmasked_perm {S : Nat} {ρ : Round} (hv : ρ.Valid S) (t : Table) :
    ((unmasked S ρ t).flatten).Perm t.flatten := by
  unfold unmasked
  rw [← List.map_flatten, ← positionsFrom_get [] t]
  exact (route_perm hv (shape t)).map _

theorem round_perm {S : Nat} {ρ : Round} (hv : ρ.Valid S) {t u : Table} (h : shape t = shape u) :
    shape (maskAndShuffle S ρ t) = shape (maskAndShuffle S ρ u) ∧
    ((txor (maskAndShuffle S ρ t) (maskAndShuffle S ρ u)).flatten).Perm (txor t u).flatten :=
  ⟨by rw [shape_mas, shape_mas, h], masks_aligned S ρ h ▸ unmasked_perm hv _⟩

end IpaVerif.Shuffle
