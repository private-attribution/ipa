import IpaVerif.Proofs.C01Sum
/-! Key-wise totals: invariance under permutation, and resharding by pseudonym. -/
namespace IpaVerif.C01
open IpaVerif.Hybrid

/-- sum over the distinct keys of `l` of what each key contributes to bucket `b`. -/
def keySum (w : Widths) (l : List Rec) (b : Nat) : Nat :=
  ∑ k ∈ (l.map (·.key)).toFinset, listVal w b (keyRows l k)

/-- permutation-invariant form of `listVal`. -/
theorem listVal_eq (w : Widths) (b : Nat) (l : List Rec) :
    listVal w b l = if l.length = 2 then
      (if (l.map (·.bk)).sum % 2 ^ w.bkW = b then (l.map (·.v)).sum % 2 ^ w.vW else 0) else 0 := by
  match l with
  | [] | [_] | [_, _] | _ :: _ :: _ :: _ => rfl

theorem listVal_perm (w : Widths) (b : Nat) {l l' : List Rec} (h : l.Perm l') :
    listVal w b l = listVal w b l' := by
  rw [listVal_eq, listVal_eq, h.length_eq, (h.map (·.bk)).sum_nat, (h.map (·.v)).sum_nat]

theorem keySum_perm (w : Widths) (b : Nat) {l l' : List Rec} (h : l.Perm l') :
    keySum w l b = keySum w l' b := by
  unfold keySum
  rw [List.toFinset_eq_of_perm _ _ (h.map (·.key))]
  apply Finset.sum_congr rfl
  intro k _
  exact listVal_perm w b (h.filter _)

theorem bucketSum_perm {r r' : List Row} (h : r.Perm r') (b : Nat) : bucketSum r b = bucketSum r' b := by
  unfold bucketSum bucketValues
  exact ((h.filter _).map _).sum_nat

theorem bucketSum_zero (d : List Row) (hd : ∀ r ∈ d, r.2 = 0) (b : Nat) : bucketSum d b = 0 := by
  unfold bucketSum bucketValues
  apply List.sum_eq_zero
  intro x hx
  simp only [List.mem_map, List.mem_filter] at hx
  obtain ⟨r, ⟨hr, _⟩, rfl⟩ := hx
  exact hd r hr

theorem groupSum_map (w : Widths) (b : Nat) (g : Rec → Nat) (l : List Rec) :
    bucketSum (aggregateReports w (l.map fun r => (g r, r))) b
      = ∑ t ∈ (l.map g).toFinset, listVal w b (l.filter fun r => g r == t) := by
  rw [groupSum, List.map_map]
  refine Finset.sum_congr rfl fun t _ => ?_
  rw [List.filter_map, List.map_map]
  exact congrArg _ (List.map_id _)

theorem sum_pseudonyms_by_residue (w : Widths) (b n : Nat) (hn : 0 < n) (g : Rec → Nat) (l : List Rec) :
    ∑ d ∈ (List.range n).toFinset, ∑ t ∈ ((l.filter fun r => g r % n == d).map g).toFinset,
        listVal w b ((l.filter fun r => g r % n == d).filter fun r => g r == t)
      = ∑ t ∈ (l.map g).toFinset, listVal w b (l.filter fun r => g r == t) := by
  rw [← Finset.sum_fiberwise_of_maps_to (s := (l.map g).toFinset) (t := (List.range n).toFinset) (g := (· % n))
    fun t _ => List.mem_toFinset.mpr (List.mem_range.mpr (Nat.mod_lt t hn))]
  refine Finset.sum_congr rfl fun d _ => Finset.sum_congr (Finset.ext fun t => ?_) fun t ht => ?_
  · simp only [List.mem_toFinset, List.mem_map, List.mem_filter, Finset.mem_filter, beq_iff_eq]
    exact ⟨fun ⟨r, ⟨hr, hd⟩, ht⟩ => ⟨⟨r, hr, ht⟩, ht ▸ hd⟩, fun ⟨⟨r, hr, ht⟩, hd⟩ => ⟨r, ⟨hr, ht ▸ hd⟩, ht⟩⟩
  · rw [List.filter_filter]
    refine congrArg _ (List.filter_congr fun r _ => ?_)
    by_cases h : g r = t
    · rw [h, beq_self_eq_true, Bool.true_and, beq_iff_eq.mpr (Finset.mem_filter.mp ht).2]
    · rw [beq_false_of_ne h, Bool.false_and]

theorem sum_pseudonyms_eq_keySum (w : Widths) (b : Nat) (f : Nat → Nat) (l : List Rec)
    (hf : ∀ r ∈ l, ∀ r' ∈ l, f r.key = f r'.key → r.key = r'.key) :
    ∑ t ∈ (l.map fun r => f r.key).toFinset, listVal w b (l.filter fun r => f r.key == t) = keySum w l b := by
  have himg : (l.map fun r => f r.key).toFinset = (l.map (·.key)).toFinset.image f := by
    ext t
    simp only [List.mem_toFinset, List.mem_map, Finset.mem_image]
    exact ⟨fun ⟨r, hr, ht⟩ => ⟨r.key, ⟨r, hr, rfl⟩, ht⟩, fun ⟨_, ⟨r, hr, hk⟩, ht⟩ => ⟨r, hr, hk ▸ ht⟩⟩
  rw [himg, Finset.sum_image, keySum]
  · refine Finset.sum_congr rfl fun k hk => ?_
    obtain ⟨r0, hr0, rfl⟩ := List.mem_map.mp (List.mem_toFinset.mp hk)
    refine congrArg _ (List.filter_congr fun r hr => ?_)
    exact Bool.eq_iff_iff.mpr ⟨fun h => beq_iff_eq.mpr (hf r hr r0 hr0 (beq_iff_eq.mp h)),
      fun h => beq_iff_eq.mpr (congrArg f (beq_iff_eq.mp h))⟩
  · intro k hk k' hk' hkk
    obtain ⟨r, hr, rfl⟩ := List.mem_map.mp (List.mem_toFinset.mp hk)
    obtain ⟨r', hr', rfl⟩ := List.mem_map.mp (List.mem_toFinset.mp hk')
    exact hf r hr r' hr' hkk

/-- **Sharding lemma.** Resharding by pseudonym, grouping per shard and flattening gives, per bucket,
the key-wise sum over all records — provided the PRF is injective on the keys present. -/
theorem shardedSum (w : Widths) (n : Nat) (hn : 0 < n) (f : Nat → Nat) (shards : List (List Rec))
    (hf : ∀ r ∈ shards.flatten, ∀ r' ∈ shards.flatten, f r.key = f r'.key → r.key = r'.key) (b : Nat) :
    bucketSum (((List.range n).map (fun d => aggregateReports w (reshardByPrf n f shards d))).flatten) b
      = keySum w shards.flatten b := by
  rw [bucketSum_flatten, List.map_map, ← List.sum_toFinset _ List.nodup_range, ← sum_pseudonyms_eq_keySum w b f _ hf, ← sum_pseudonyms_by_residue w b n hn]
  exact Finset.sum_congr rfl fun d _ => groupSum_map w b (fun r => f r.key) _

end IpaVerif.C01
