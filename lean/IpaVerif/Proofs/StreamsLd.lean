import IpaVerif.Proofs.StreamsBuf
/-! C17: `LengthDelimitedStream` against the chunk-free specification of the wire format. -/
namespace IpaVerif.Streams

def ldTerminal (hasErr : Bool) (p : Option Nat) (R : Bytes) : Item :=
  if hasErr then .errUpstream
  else if R.length > 0 then .errTrailing R.length
  else if p.isSome then .errTrailing 2
  else .done

/-- The chunk-free specification of the wire format: `u16` little-endian length, then that many
bytes; `p` is a length that has already been read. -/
def specLd (hasErr : Bool) : Option Nat → Bytes → List Item
  | none, R =>
    if _h : R.length < 2 then [ldTerminal hasErr none R]
    else specLd hasErr (some (le16 (R.take 2))) (R.drop 2)
  | some len, R =>
    if _h : R.length < len then [ldTerminal hasErr (some len) R]
    else .record (R.take len) :: specLd hasErr none (R.drop len)
termination_by p R => 2 * R.length + (if p.isSome then 1 else 0)
decreasing_by
  · simp only [List.length_drop, Option.isSome_some, Option.isSome_none]; simp; omega
  · simp only [List.length_drop, Option.isSome_some, Option.isSome_none]; simp; omega

theorem specLd_none (e : Bool) (R : Bytes) :
    specLd e none R = if R.length < 2 then [ldTerminal e none R]
      else specLd e (some (le16 (R.take 2))) (R.drop 2) :=
  specLd.eq_1 e R

theorem specLd_some (e : Bool) (len : Nat) (R : Bytes) :
    specLd e (some len) R = if R.length < len then [ldTerminal e (some len) R]
      else .record (R.take len) :: specLd e none (R.drop len) :=
  specLd.eq_2 e R len

theorem ldTerminal_isEnd (e p R) : (ldTerminal e p R).IsEnd := by
  unfold ldTerminal
  repeat' apply ite_of
  all_goals exact ⟨rfl, nofun⟩

def pend : Option Nat → Nat
  | none => 0
  | some _ => 1

theorem pend_le_one : ∀ p, pend p ≤ 1
  | none => Nat.zero_le 1
  | some _ => Nat.le_refl 1

theorem ldBody_spec (e : Bool) (len : Nat) {b : BufDeque} (hw : b.WF) :
    (∃ bs b2, ldBody (some len) b = (.some bs, b2) ∧ b2.WF ∧ b2.size ≤ b.size ∧
        ∀ t, specLd e (some len) (b.bytes ++ t) = .record bs :: specLd e none (b2.bytes ++ t)) ∨
    (ldBody (some len) b = (.none, b) ∧ specLd e (some len) b.bytes = [ldTerminal e (some len) b.bytes]) := by
  unfold ldBody
  dsimp only
  by_cases h0 : len = 0
  · subst h0
    exact .inl ⟨[], b, rfl, hw, Nat.le_refl _, fun t => by rw [specLd_some]; rfl⟩
  · rw [if_neg h0]
    by_cases hl : len ≤ b.size
    · obtain ⟨b2, h1, hw2, hb2, hs2⟩ := readBytes_some hw len (Nat.pos_of_ne_zero h0) hl
      refine .inl ⟨_, b2, h1, hw2, hs2 ▸ Nat.sub_le _ _, fun t => ?_⟩
      obtain ⟨hlen, htake, hdrop⟩ := take_drop_append_of_le (hw ▸ hl) t
      rw [specLd_some, if_neg (Nat.not_lt.2 hlen), htake, hdrop, hb2]
    · refine .inr ⟨readBytes_none _ _ (.inr (Nat.lt_of_not_le hl)), ?_⟩
      rw [specLd_some, if_pos (hw ▸ Nat.lt_of_not_le hl)]

/-- `size + pend` measures the progress of one loop iteration: reading a header trades two bytes for a
pending length. -/
theorem ldStep_spec (e : Bool) (p : Option Nat) {b : BufDeque} (hw : b.WF) :
    ∃ h p1 b1, ldHeader p b = (h, p1, b1) ∧ h ≠ .panic ∧
      ((∃ bs b2, ldBody p1 b1 = (.some bs, b2) ∧ b2.WF ∧ b2.size < b.size + pend p ∧
          ∀ t, specLd e p (b.bytes ++ t) = .record bs :: specLd e none (b2.bytes ++ t)) ∨
       (ldBody p1 b1 = (.none, b1) ∧ b1.WF ∧ b1.size + pend p1 ≤ b.size + pend p ∧
          (∀ t, specLd e p (b.bytes ++ t) = specLd e p1 (b1.bytes ++ t)) ∧
          specLd e p1 b1.bytes = [ldTerminal e p1 b1.bytes])) := by
  cases p with
  | some len =>
    refine ⟨.none, some len, b, rfl, ReadRes.noConfusion, ?_⟩
    obtain ⟨bs, b2, h1, h2, h3, h4⟩ | ⟨h1, h2⟩ := ldBody_spec e len hw
    · exact .inl ⟨bs, b2, h1, h2, Nat.lt_succ_of_le h3, h4⟩
    · exact .inr ⟨h1, hw, Nat.le_refl _, fun _ => rfl, h2⟩
  | none =>
    unfold ldHeader
    dsimp only
    by_cases h2 : 2 ≤ b.size
    · obtain ⟨b1, h1, hw1, hb1, hs1⟩ := readBytes_some hw 2 Nat.two_pos h2
      rw [h1]
      refine ⟨_, _, b1, rfl, ReadRes.noConfusion, ?_⟩
      have hdr : ∀ t, specLd e none (b.bytes ++ t) = specLd e (some (le16 (b.bytes.take 2))) (b1.bytes ++ t) :=
        fun t => by
          obtain ⟨hlen, htake, hdrop⟩ := take_drop_append_of_le (hw ▸ h2) t
          rw [specLd_none, if_neg (Nat.not_lt.2 hlen), htake, hdrop, hb1]
      have hlt : b1.size < b.size := hs1 ▸ Nat.sub_lt (Nat.lt_of_lt_of_le Nat.two_pos h2) Nat.two_pos
      obtain ⟨bs, b2, h3, h4, h5, h6⟩ | ⟨h3, h4⟩ := ldBody_spec e (le16 (b.bytes.take 2)) hw1
      · exact .inl ⟨bs, b2, h3, h4, Nat.lt_of_le_of_lt h5 hlt, fun t => (hdr t).trans (h6 t)⟩
      · exact .inr ⟨h3, hw1, hlt, hdr, h4⟩
    · rw [readBytes_none _ _ (.inr (Nat.lt_of_not_le h2))]
      refine ⟨_, _, b, rfl, ReadRes.noConfusion, .inr ⟨rfl, hw, Nat.le_refl _, fun _ => rfl, ?_⟩⟩
      rw [specLd_none, if_pos (hw ▸ Nat.lt_of_not_le h2)]

/-! `ldPoll` matches on the header outcome `h` only to single out the panic. -/

theorem ldPoll_record {s : LState} {h : ReadRes} {p1 : Option Nat} {b1 b2 : BufDeque} {bs : Bytes}
    (fuel : Nat) (l : LLocals) (hh : ldHeader s.pending s.buf = (h, p1, b1)) (hnp : h ≠ .panic)
    (hb : ldBody p1 b1 = (.some bs, b2)) :
    ldPoll (fuel + 1) s l =
      if l.available ≠ 0 ∧ consumedAfter h l.consumed + bs.length < l.available then
        ldPoll fuel { s with buf := b2, pending := none }
          { l with consumed := consumedAfter h l.consumed + bs.length, items := l.items ++ [bs] }
      else (.batch (l.items ++ [bs]), { s with buf := b2, pending := none }) := by
  cases h with
  | panic => exact absurd rfl hnp
  | _ => simp only [ldPoll, hh, hb]

theorem ldPoll_wait {s : LState} {h : ReadRes} {p1 : Option Nat} {b1 : BufDeque}
    (fuel : Nat) (l : LLocals) (hh : ldHeader s.pending s.buf = (h, p1, b1)) (hnp : h ≠ .panic)
    (hb : ldBody p1 b1 = (.none, b1)) (hw1 : b1.WF) :
    ldPoll (fuel + 1) s l =
      if !l.items.isEmpty then (.batch l.items, { s with buf := b1, pending := p1 }) else
        match s.up with
        | [] => (ldTerminal false p1 b1.bytes, { s with buf := b1, pending := p1 })
        | .err :: rest => (.errUpstream, { buf := b1, pending := p1, up := rest })
        | .chunk c :: rest =>
          ldPoll fuel { buf := b1.push c, pending := p1, up := rest }
            { l with available := if l.available = 0 then (b1.push c).contiguousLen else l.available,
                     consumed := consumedAfter h l.consumed } := by
  rw [ldTerminal, if_neg Bool.false_ne_true, ← hw1, apply_ite (Prod.mk · _), apply_ite (Prod.mk · _)]
  cases h with
  | panic => exact absurd rfl hnp
  | _ => simp only [ldPoll, hh, hb]; rfl

def LState.spec (s : LState) : List Item := specLd (upErr s.up) s.pending (unread s.buf s.up)

/-- Falls with every record emitted and stays when an upstream chunk is buffered; together with
`up.length` it bounds the iterations of one poll. -/
def LState.mu (s : LState) : Nat := s.buf.size + pend s.pending + totalBytes s.up

def PollOk (spec : List Item) (m : Nat) (items : List Bytes) (it : Item) (s' : LState) : Prop :=
  (∃ recs, it = .batch (items ++ recs) ∧ items ++ recs ≠ [] ∧ spec = recs.map .record ++ s'.spec ∧
      s'.mu + recs.length ≤ m) ∨
  (items = [] ∧ it.isTerminal = true ∧ spec = [it])

theorem ldPoll_spec : ∀ (fuel : Nat) (s : LState) (l : LLocals), s.buf.WF → s.mu + s.up.length < fuel →
    ∃ it s', ldPoll fuel s l = (it, s') ∧ s'.buf.WF ∧ PollOk s.spec s.mu l.items it s'
  | 0, _, _, _, h => absurd h (Nat.not_lt_zero _)
  | fuel + 1, ⟨b, p, up⟩, l, hw, hf => by
    have hf : (⟨b, p, up⟩ : LState).mu + up.length < fuel + 1 := hf
    obtain ⟨h, p1, b1, hh, hnp, ⟨bs, b2, hb, hw2, hsz, hspec⟩ | ⟨hb, hw1, hsz, hspec, hstuck⟩⟩ :=
      ldStep_spec (upErr up) p (b := b) hw
    · rw [ldPoll_record fuel l hh hnp hb]
      have hmu : (⟨b2, none, up⟩ : LState).mu < (⟨b, p, up⟩ : LState).mu := Nat.add_lt_add_right hsz _
      have hne : ∀ recs, l.items ++ bs :: recs ≠ [] := fun _ =>
        List.append_ne_nil_of_right_ne_nil _ (List.cons_ne_nil _ _)
      by_cases hgo : l.available ≠ 0 ∧ consumedAfter h l.consumed + bs.length < l.available
      · obtain ⟨it, s', hp, hw', hok⟩ := ldPoll_spec fuel ⟨b2, none, up⟩
          { l with consumed := consumedAfter h l.consumed + bs.length, items := l.items ++ [bs] } hw2
          (Nat.lt_of_lt_of_le (Nat.add_lt_add_right hmu _) (Nat.le_of_lt_succ hf))
        rw [if_pos hgo]
        refine ⟨it, s', hp, hw', ?_⟩
        obtain ⟨recs, hit, -, hsp, hle⟩ | ⟨hnil, -⟩ := hok
        · exact .inl ⟨bs :: recs, by rw [hit, List.append_assoc]; rfl, hne _, (hspec _).trans (congrArg _ hsp),
            Nat.le_trans (Nat.succ_le_succ hle) hmu⟩
        · exact absurd hnil (hne [])
      · rw [if_neg hgo]
        exact ⟨_, _, rfl, hw2, .inl ⟨[bs], rfl, hne [], hspec _, hmu⟩⟩
    · rw [ldPoll_wait fuel l hh hnp hb hw1]
      have hs : (⟨b, p, up⟩ : LState).spec = specLd (upErr up) p1 (unread b1 up) := hspec _
      by_cases hemp : l.items = []
      · rw [if_neg (by rw [hemp]; exact Bool.false_ne_true), hs]
        cases up with
        | nil =>
          dsimp only
          rw [unread, upBytes, List.append_nil]
          exact ⟨_, _, rfl, hw1, .inr ⟨hemp, (ldTerminal_isEnd _ _ _).1, hstuck⟩⟩
        | cons u up =>
          cases u with
          | err =>
            dsimp only
            rw [unread, upBytes, List.append_nil]
            exact ⟨_, _, rfl, hw1, .inr ⟨hemp, rfl, hstuck⟩⟩
          | chunk c =>
            have hmu : (⟨b1.push c, p1, up⟩ : LState).mu ≤ (⟨b, p, .chunk c :: up⟩ : LState).mu := by
              show b1.size + c.length + pend p1 + totalBytes up ≤ b.size + pend p + (c.length + totalBytes up)
              rw [Nat.add_right_comm b1.size, Nat.add_assoc _ c.length]
              exact Nat.add_le_add_right hsz _
            obtain ⟨it, s', hp, hw', hok⟩ := ldPoll_spec fuel ⟨b1.push c, p1, up⟩
              { l with available := if l.available = 0 then (b1.push c).contiguousLen else l.available,
                       consumed := consumedAfter h l.consumed }
              (wf_push hw1 c) (Nat.lt_of_le_of_lt (Nat.add_le_add_right hmu _) (Nat.lt_of_succ_lt_succ hf))
            rw [LState.spec, unread_push] at hok
            exact ⟨it, s', hp, hw', hok.imp (fun ⟨recs, hit, hne, hsp, hle⟩ => ⟨recs, hit, hne, hsp, Nat.le_trans hle hmu⟩) id⟩
      · rw [if_pos (by rw [Bool.not_eq_true', List.isEmpty_eq_false_iff]; exact hemp)]
        exact ⟨_, _, rfl, hw1, .inl ⟨[], (List.append_nil _).symm ▸ rfl, (List.append_nil _).symm ▸ hemp,
          hs, Nat.add_le_add_right hsz _⟩⟩

theorem lengthDelimited_spec (up : List Up) :
    flattenItems (lengthDelimited up) = specLd (upErr up) none (upBytes up) := by
  rw [flattenItems_eq_flatMap]
  refine run_spec (poll := fun s => ldPoll (ldFuel s) s {}) (fun _ _ => rfl) _ (fun s => s.buf.WF)
    LState.mu LState.spec (fun s hw => ?_) _ ⟨.empty, none, up⟩ wf_empty ?_
  · obtain ⟨it, s', hp, hw', ⟨recs, hit, hne, hsp, hle⟩ | ⟨-, hterm, hsp⟩⟩ := ldPoll_spec (ldFuel s) s {} hw (by
      show s.buf.size + pend s.pending + totalBytes s.up + s.up.length <
        2 * (s.buf.size + totalBytes s.up) + s.up.length + 3
      have := pend_le_one s.pending
      omega)
    · have : 0 < recs.length := List.length_pos_iff.2 hne
      exact ⟨it, s', hp, hw', hit ▸ ⟨Nat.lt_of_lt_of_le (Nat.lt_add_of_pos_right this) hle,
        hsp.trans (congrArg (· ++ _) (List.append_nil _).symm)⟩⟩
    · refine ⟨it, s', hp, hw', ?_⟩
      rw [if_pos hterm, flattenItems_terminal hterm]
      exact hsp
  · show 0 + 0 + totalBytes up < 2 * totalBytes up + 2
    omega

theorem specLd_no_panic (e : Bool) (p : Option Nat) (R : Bytes) : Item.panic ∉ specLd e p R := by
  induction p, R using specLd.induct with
  | case1 R h =>
    rw [specLd_none, if_pos h, List.mem_singleton]
    exact (ldTerminal_isEnd _ _ _).2.symm
  | case2 R h ih => rwa [specLd_none, if_neg h]
  | case3 len R h =>
    rw [specLd_some, if_pos h, List.mem_singleton]
    exact (ldTerminal_isEnd _ _ _).2.symm
  | case4 len R h ih =>
    rw [specLd_some, if_neg h, List.mem_cons]
    exact fun hm => hm.elim Item.noConfusion ih

/-- little-endian `u16` length prefix followed by the record. -/
def encodeLd : List Bytes → Bytes
  | [] => []
  | r :: rs => [r.length % 256, r.length / 256] ++ r ++ encodeLd rs

theorem specLd_encode (e : Bool) (tail : Bytes) : ∀ recs : List Bytes,
    specLd e none (encodeLd recs ++ tail) = recs.map .record ++ specLd e none tail
  | [] => rfl
  | r :: rs => by
    have hr : r.length % 256 + 256 * (r.length / 256) = r.length := Nat.mod_add_div _ _
    have hlen : ¬ (encodeLd (r :: rs) ++ tail).length < 2 := Nat.not_lt.2 (Nat.le_add_left 2 _)
    rw [specLd_none, if_neg hlen]
    show specLd e (some (r.length % 256 + 256 * (r.length / 256))) ((r ++ encodeLd rs) ++ tail) = _
    rw [hr, List.append_assoc, specLd_some, if_neg (Nat.not_lt.2 (List.length_append ▸ Nat.le_add_right _ _)),
      List.take_left' rfl, List.drop_left' rfl, specLd_encode e tail rs]
    rfl

end IpaVerif.Streams
