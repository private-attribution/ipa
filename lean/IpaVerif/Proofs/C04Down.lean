import IpaVerif.Proofs.C04Run
/-!
# C04 — helper lemmas: the gates after an attacked gate scale its discrepancy by coefficients independent of `r`
-/
namespace IpaVerif.C04
open IpaVerif.Sharing IpaVerif.Mac IpaVerif.Generated.Mac

variable {R : Type} [CommRing R]

def kget (ks : List (R × R)) (i : Nat) : R × R := ks.getD i (0, 0)

/-- plaintext value and discrepancy COEFFICIENT `κ` of every wire (honest gates): the wire's MAC discrepancy is
`D·κ` where `D` is the discrepancy injected at the attacked gate. Does not involve `r`. -/
def kstep (ks : List (R × R)) : Gate R → List (R × R)
  | .upgrade x _ _ _ => ks ++ [(rec x, 0)]
  | .mul i j _ _ _ _ _ => ks ++ [((kget ks i).1 * (kget ks j).1, (kget ks i).2 * (kget ks j).1)]
  | .add i j => ks ++ [((kget ks i).1 + (kget ks j).1, (kget ks i).2 + (kget ks j).2)]
  | .sub i j => ks ++ [((kget ks i).1 - (kget ks j).1, (kget ks i).2 - (kget ks j).2)]
  | .neg i => ks ++ [(- (kget ks i).1, - (kget ks i).2)]
  | .mulConst i c => ks ++ [((kget ks i).1 * c, (kget ks i).2 * c)]

/-- `Σ_j α̂_j·κ_j` over the recorded gates. -/
def kterms : List (Gate R) → List (R × R) → R
  | [], _ => 0
  | g :: gs, ks =>
    (match g with
      | .mul i j _ _ α _ _ => rec α * ((kget ks i).2 * (kget ks j).1)
      | _ => 0) + kterms gs (kstep ks g)

def kToPw (D : R) (k : R × R) : PW R := ⟨k.1, D * k.2⟩

theorem pget_kmap (D : R) (ks : List (R × R)) (i : Nat) : pget (ks.map (kToPw D)) i = kToPw D (kget ks i) := by
  have h0 : kToPw D (0, 0) = ⟨0, 0⟩ := by rw [kToPw, mul_zero]
  rw [pget, kget, ← h0, List.getD_map]

theorem pstep_kstep (rh D : R) (ks : List (R × R)) (t : R) {g : Gate R} (hg : GateHonest g) :
    pstep rh (ks.map (kToPw D), t) g = ((kstep ks g).map (kToPw D), t + D * kterms [g] ks) := by
  cases g with
  | upgrade x ρ α e' =>
    simp only [pstep, kstep, kterms, kToPw, show errSum e' = 0 from hg, List.map_append, List.map_singleton, mul_zero,
      add_zero]
  | mul i j ρ ρ' α e e' =>
    simp only [pstep, kstep, kterms, pget_kmap, kToPw, hg.1, hg.2, List.map_append, List.map_singleton, mul_zero,
      add_zero, sub_zero]
    rw [mul_assoc D, mul_left_comm (rec α) D]
  | _ =>
    simp only [pstep, kstep, kterms, pget_kmap, kToPw, List.map_append, List.map_singleton, mul_add, mul_sub, mul_neg,
      mul_assoc, mul_zero, add_zero]

theorem macTerms_kterms (rh D : R) {gs : List (Gate R)} (hh : ∀ g ∈ gs, GateHonest g) (ks : List (R × R)) :
    termSum (macTerms rh gs (ks.map (kToPw D))) = D * kterms gs ks := by
  induction gs generalizing ks with
  | nil => exact (mul_zero D).symm
  | cons g gs ih =>
    obtain ⟨hs, h0⟩ := macTerms_of_pstep (pstep_kstep rh D ks 0 (hh g List.mem_cons_self))
    rw [macTerms_cons, termSum_append, hs, ih (fun g' hg' => hh g' (List.mem_cons_of_mem _ hg')), h0, zero_add]
    simp only [kterms, add_zero, mul_add]

/-- the plaintext wires after an honest prefix, as `(value, κ = 0)` pairs -/
def kInit (gs₀ : List (Gate R)) : List (R × R) := (plain gs₀ []).map (fun v => (v, (0 : R)))

theorem macTerms_single (rh : R) {gs₀ gs₁ : List (Gate R)} (h0 : ∀ g ∈ gs₀, GateHonest g) (h1 : ∀ g ∈ gs₁, GateHonest g)
    {g : Gate R} {v D a : R}
    (hg : pstep rh ((plain gs₀ []).map intact, 0) g = ((plain gs₀ []).map intact ++ [⟨v, D⟩], a * D)) :
    termSum (macTerms rh (gs₀ ++ g :: gs₁) []) = D * (a + kterms gs₁ (kInit gs₀ ++ [(v, 1)])) := by
  obtain ⟨hw0, ht0⟩ : wiresAfter rh gs₀ [] = _ ∧ termSum (macTerms rh gs₀ []) = 0 := wiresAfter_honest rh h0 []
  obtain ⟨hs, hD⟩ := macTerms_of_pstep hg
  -- the new wire has discrepancy `D` (coefficient `κ = 1`) and follows wires with intact MACs (`κ = 0`)
  have hw : (plain gs₀ []).map intact ++ [⟨v, D⟩] = (kInit gs₀ ++ [(v, 1)]).map (kToPw D) := by
    simp only [kInit, List.map_append, List.map_map, Function.comp_def, List.map_singleton, kToPw, mul_zero, mul_one]
    rfl
  rw [macTerms_append, termSum_append, ht0, hw0, macTerms_cons, termSum_append, hs, hw, macTerms_kterms rh D h1, hD,
    zero_add, mul_add, mul_comm a]

end IpaVerif.C04
