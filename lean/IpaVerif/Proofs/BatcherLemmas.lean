import IpaVerif.Model.Batcher
/-! Lists as the batcher model uses them: bitmaps, the deque of slots, records inside a batch. -/
namespace IpaVerif.Batcher

theorem lt_of_getElem? {α} {l : List α} {i : Nat} {x : α} (h : l[i]? = some x) : i < l.length :=
  (List.getElem?_eq_some_iff.1 h).1

theorem getElem?_set_cases {α} {l : List α} {i j : Nat} {y z : α} (h : (l.set i y)[j]? = some z) :
    (j = i ∧ z = y) ∨ (j ≠ i ∧ l[j]? = some z) := by
  rw [List.getElem?_set] at h
  split at h
  · next e =>
    split at h
    · exact Or.inl ⟨e.symm, (Option.some.inj h).symm⟩
    · cases h
  · next e => exact Or.inr ⟨fun e' => e e'.symm, h⟩

theorem getElem?_snoc {α} {l : List α} {x y : α} {i : Nat} (h : (l ++ [x])[i]? = some y) :
    l[i]? = some y ∨ (i = l.length ∧ y = x) := by
  rcases Nat.lt_trichotomy i l.length with hi | hi | hi
  · rw [List.getElem?_append_left hi] at h; exact Or.inl h
  · subst hi
    rw [List.getElem?_append_right (Nat.le_refl _), Nat.sub_self] at h
    exact Or.inr ⟨rfl, (Option.some.inj h).symm⟩
  · have := lt_of_getElem? h
    rw [List.length_append, List.length_singleton] at this
    omega

theorem set_eq_self {α} {l : List α} {i : Nat} {x : α} (h : l[i]? = some x) : l.set i x = l := by
  obtain ⟨hi, rfl⟩ := List.getElem?_eq_some_iff.1 h
  exact List.set_getElem_self hi

theorem count_true_of_false_from (l : List Bool) : ∀ m, (∀ j, m ≤ j → l.getD j false = false) →
    l.count true ≤ m ∧ (l.count true = m ↔ ∀ j, j < m → l.getD j false = true) := by
  induction l with
  | nil =>
    intro m _
    cases m with
    | zero => exact ⟨Nat.le_refl 0, fun _ _ hj => absurd hj (Nat.not_lt_zero _), fun _ => rfl⟩
    | succ m => exact ⟨Nat.zero_le _, fun h => absurd h (Nat.succ_ne_zero m).symm,
        fun h => absurd (h 0 (Nat.succ_pos m)) Bool.false_ne_true⟩
  | cons a l ih =>
    intro m h
    cases m with
    | zero =>
      have ha : a = false := h 0 (Nat.le_refl 0)
      have hl := (ih 0 fun j _ => h (j + 1) (Nat.zero_le _)).1
      rw [ha, List.count_cons_of_ne Bool.false_ne_true]
      exact ⟨hl, fun _ _ hj => absurd hj (Nat.not_lt_zero _), fun _ => Nat.le_zero.1 hl⟩
    | succ m =>
      obtain ⟨h1, h2⟩ := ih m fun j hj => h (j + 1) (Nat.succ_le_succ hj)
      cases a with
      | false =>
        rw [List.count_cons_of_ne Bool.false_ne_true]
        exact ⟨Nat.le_succ_of_le h1, fun e => absurd h1 (by omega),
          fun hall => absurd (hall 0 (Nat.succ_pos m)) Bool.false_ne_true⟩
      | true =>
        rw [List.count_cons_self, Nat.add_right_cancel_iff, h2]
        refine ⟨Nat.succ_le_succ h1, fun hall j hj => ?_, fun hall j hj => hall (j + 1) (Nat.succ_lt_succ hj)⟩
        cases j with
        | zero => rfl
        | succ j => exact hall j (Nat.lt_of_succ_lt_succ hj)

theorem getD_of_length_le {l : List Bool} {i : Nat} (h : l.length ≤ i) : l.getD i false = false := by
  rw [List.getD_eq_getElem?_getD, List.getElem?_eq_none h]; rfl

theorem getD_set_true {l : List Bool} {i : Nat} (h : i < l.length) (j : Nat) :
    (l.set i true).getD j false = true ↔ j = i ∨ l.getD j false = true := by
  simp only [List.getD_eq_getElem?_getD, List.getElem?_set, h, if_true]
  by_cases e : i = j
  · simp only [e, if_true, Option.getD_some, true_or]
  · simp only [e, if_false, Ne.symm e, false_or]

theorem count_set_true {l : List Bool} {i : Nat} (h : i < l.length) (hb : l.getD i false = false) :
    (l.set i true).count true = l.count true + 1 := by
  have : l[i] = false := by
    rwa [List.getD_eq_getElem?_getD, List.getElem?_eq_getElem h] at hb
  rw [List.count_set h, this]; rfl

theorem allSet_iff (l : List Bool) (tc : Nat) : allSet l tc = true ↔ ∀ j, j < tc → l.getD j false = true := by
  simp only [allSet, List.all_eq_true, List.mem_range]

theorem getD_append_replicate (l : List Bool) (k j : Nat) :
    (l ++ List.replicate k false).getD j false = l.getD j false := by
  simp only [List.getD_eq_getElem?_getD, List.getElem?_append, List.getElem?_replicate]
  split
  · rfl
  · next h => rw [List.getElem?_eq_none (Nat.le_of_not_lt h)]; split <;> rfl

theorem resize_grow (l : List Bool) (m : Nat) (h : l.length < m) :
    resize l m = l ++ List.replicate (m - l.length) false := by
  rw [resize, List.take_of_length_le (Nat.le_of_lt h)]

theorem getD_resize (l : List Bool) (m j : Nat) (h : l.length < m) :
    (resize l m).getD j false = l.getD j false := by
  rw [resize_grow l m h, getD_append_replicate]

theorem count_resize (l : List Bool) (m : Nat) (h : l.length < m) :
    (resize l m).count true = l.count true := by
  rw [resize_grow l m h, List.count_append, List.count_replicate]; rfl

theorem length_resize (l : List Bool) (m : Nat) (h : l.length < m) : (resize l m).length = m := by
  rw [resize_grow l m h, List.length_append, List.length_replicate]; omega

theorem freshFrom_length (s : State) : ∀ k len, (freshFrom s len k).length = k := by
  intro k; induction k with
  | zero => intro len; rfl
  | succ k ih => intro len; rw [freshFrom, List.length_cons, ih]

theorem freshFrom_get (s : State) : ∀ k len i, i < k →
    (freshFrom s len k)[i]? = some (some (freshBatch s (s.firstBatch + (len + i)))) := by
  intro k; induction k with
  | zero => intro len i h; omega
  | succ k ih =>
    intro len i h
    cases i with
    | zero => rfl
    | succ i =>
      rw [freshFrom, List.getElem?_cons_succ, ih (len + 1) i (by omega), Nat.add_right_comm len 1 i]; rfl

theorem extend_length (s : State) (off : Nat) :
    (extend s off).batches.length = max s.batches.length (off + 1) := by
  simp only [extend, List.length_append, freshFrom_length]; omega

theorem extend_get (s : State) (off k : Nat) :
    (extend s off).batches[k]? =
      if k < s.batches.length then s.batches[k]?
      else if k ≤ off then some (some (freshBatch s (s.firstBatch + k))) else none := by
  simp only [extend, List.getElem?_append]
  split
  · rfl
  · next h =>
    split
    · next h2 =>
      rw [freshFrom_get s _ _ _ (Nat.sub_lt_sub_right (Nat.le_of_not_lt h) (Nat.lt_succ_of_le h2)),
        Nat.add_sub_cancel' (Nat.le_of_not_lt h)]
    · next h2 =>
      exact List.getElem?_eq_none (by rw [freshFrom_length]; exact Nat.sub_le_sub_right (Nat.lt_of_not_le h2) _)

theorem extend_slot (s : State) (off : Nat) : ∃ x, (extend s off).batches[off]? = some x :=
  ⟨_, List.getElem?_eq_getElem (by rw [extend_length]; omega)⟩

theorem setSlot_length (s : State) (off : Nat) (v) : (setSlot s off v).batches.length = s.batches.length :=
  List.length_set

theorem setSlot_get (s : State) (off k : Nat) (v : Option BatchState) :
    (setSlot s off v).batches[k]? = if off = k ∧ off < s.batches.length then some v else s.batches[k]? := by
  simp only [setSlot, List.getElem?_set]
  by_cases h : off = k
  · subst h; by_cases h2 : off < s.batches.length <;> simp only [h2, if_true, if_false, and_false, and_true]
    exact (List.getElem?_eq_none (Nat.le_of_not_lt h2)).symm
  · simp only [h, if_false, false_and]

theorem div_offset (rpb b j : Nat) (h : j < rpb) : (b * rpb + j) / rpb = b := by
  rw [Nat.mul_comm, Nat.mul_add_div (by omega), Nat.div_eq_of_lt h]; rfl

theorem offset_of_div {r rpb b : Nat} (hp : 0 < rpb) (h : r / rpb = b) :
    b * rpb + (r - b * rpb) = r ∧ r - b * rpb < rpb := by
  subst h
  exact ⟨Nat.add_sub_cancel' (Nat.div_mul_le_self r rpb), Nat.mod_eq_sub_div_mul ▸ Nat.mod_lt r hp⟩

end IpaVerif.Batcher
