import IpaVerif.Model.OrderingSenderAtomic
import IpaVerif.Proofs.OrderingSender
/-! Frame lemmas for the atomic-level model of `OrderingSender`: what each action requires and what
it changes. -/
namespace IpaVerif.OrderingSenderAtomic
open IpaVerif.CircularBuf IpaVerif.OrderingSender

/-- The model's `WaitingShard::wake` (with the `woken_at` update **generated from the source**) is
the poll-level model's `Shard.wake`, i.e. the source assigns `max(self.woken_at, i)`. -/
theorem shard_wake_matches_source (sh : Shard) (i : Nat) : shardWake sh i = sh.wake i := by
  unfold shardWake Shard.wake Generated.SenderAtomic.wokenAtAfterWake
  rfl

/-- The model's `WaitingShard::add` (rejection rule **generated from the source**) is the poll-level
model's `Shard.add`, i.e. the source rejects exactly when `current < self.woken_at`. -/
theorem shard_add_matches_source (sh : Shard) (cur i : Nat) (w : Task) :
    shardAdd sh cur i w = sh.add cur i w := by
  unfold shardAdd Shard.add Generated.SenderAtomic.addRejects
  by_cases h : cur < sh.wokenAt <;> simp [h]

theorem waitingWake_eq (s : State) (i : Nat) : waitingWake s i = s.waitingWake i := by
  unfold waitingWake State.waitingWake
  rw [shard_wake_matches_source]

theorem mark_of_true {w : Task → Bool} {l : List Task} {u : Task} (h : w u = true) : mark w l u = true := by
  simp [mark, h]

theorem mark_of_mem {w : Task → Bool} {l : List Task} {u : Task} (h : u ∈ l) : mark w l u = true := by
  simp [mark, h]

theorem mark_false {w : Task → Bool} {l : List Task} {u : Task} (h : mark w l u = false) : w u = false := by
  simp [mark] at h; exact h.1

theorem mark_false_not_mem {w : Task → Bool} {l : List Task} {u : Task} (h : mark w l u = false) : u ∉ l := by
  simp [mark] at h; exact h.2

/-- Shape of a program counter that allows a new `load`. -/
def Pc.canLoad : Pc → Prop
  | .fresh | .waitTurn | .waitSpace | .polling => True
  | _ => False

theorem doLoad_frame {c : Cfg} {a a' : AState} {t : Task} {e : Ev} (h : doLoad c a t = some (a', e)) :
    c.writer t = true ∧ (a.pc t).canLoad ∧ a'.s = a.s ∧ a'.pc = upd a.pc t (.loaded a.s.next) ∧
    a'.rpc = a.rpc ∧ (∀ u, u ≠ t → a'.woken u = a.woken u) := by
  unfold doLoad at h
  split at h
  · cases h
  · rename_i hw
    have hw' : c.writer t = true := by simpa using hw
    split at h
    · cases h; rename_i hp; exact ⟨hw', by rw [hp]; trivial, rfl, rfl, rfl, fun u hu => by simp [hu]⟩
    · cases h; rename_i hp; exact ⟨hw', by rw [hp]; trivial, rfl, rfl, rfl, fun u hu => by simp [hu]⟩
    · cases h; rename_i hp; exact ⟨hw', by rw [hp]; trivial, rfl, rfl, rfl, fun u hu => by simp [hu]⟩
    · cases h; rename_i hp; exact ⟨hw', by rw [hp]; trivial, rfl, rfl, rfl, fun u _ => rfl⟩
    · cases h

theorem doPanicTwice_frame {c : Cfg} {a a' : AState} {t : Task} {e : Ev} (h : doPanicTwice c a t = some (a', e)) :
    (∃ cu, a.pc t = .loaded cu ∧ cu > c.idx t) ∧ a'.s = a.s ∧ a'.pc = upd a.pc t .panicked ∧
    a'.rpc = a.rpc ∧ a'.woken = a.woken := by
  unfold doPanicTwice at h
  split at h
  · rename_i cu hp
    split at h
    · cases h; rename_i hgt; exact ⟨⟨cu, hp, hgt⟩, rfl, rfl, rfl, rfl⟩
    · cases h
  · cases h

theorem csSend_frame (a : AState) (t : Task) (m : List Nat) :
    (csSend a t m).1.s.next = a.s.next ∧ (csSend a t m).1.s.shards = a.s.shards ∧
    (∃ p, (csSend a t m).1.pc = upd a.pc t p ∧ (p = .panicked ∨ p = .waitSpace ∨ p = .wrote)) ∧
    (csSend a t m).1.rpc = a.rpc ∧ (∀ u, (csSend a t m).1.woken u = false → a.woken u = false) := by
  unfold csSend
  dsimp only
  by_cases h1 : a.s.buf.closed = true
  · rw [if_pos h1]
    exact ⟨rfl, rfl, ⟨_, rfl, .inl rfl⟩, rfl, fun _ h => h⟩
  rw [if_neg h1]
  by_cases h2 : (!a.s.buf.canWrite) = true
  · rw [if_pos h2]
    exact ⟨rfl, rfl, ⟨_, rfl, .inr (.inl rfl)⟩, rfl, fun _ h => h⟩
  rw [if_neg h2]
  cases a.s.buf.writeMsg m with
  | error e => exact ⟨rfl, rfl, ⟨_, rfl, .inl rfl⟩, rfl, fun _ h => h⟩
  | ok b' =>
    exact ⟨rfl, rfl, ⟨_, rfl, .inr (.inr rfl)⟩, rfl, fun _ h => mark_false h⟩

theorem csClose_frame (a : AState) (t : Task) :
    (csClose a t).1.s.next = a.s.next ∧ (csClose a t).1.s.shards = a.s.shards ∧
    (∃ p, (csClose a t).1.pc = upd a.pc t p ∧ (p = .panicked ∨ p = .waitSpace ∨ p = .wrote)) ∧
    (csClose a t).1.rpc = a.rpc ∧ (∀ u, (csClose a t).1.woken u = false → a.woken u = false) := by
  unfold csClose
  simp only []
  split
  · exact ⟨rfl, rfl, ⟨_, rfl, Or.inl rfl⟩, rfl, fun _ h => h⟩
  · exact ⟨rfl, rfl, ⟨_, rfl, Or.inr (Or.inr rfl)⟩, rfl, fun _ h => mark_false h⟩

theorem doCs_frame {c : Cfg} {a a' : AState} {t : Task} {e : Ev} (h : doCs c a t = some (a', e)) :
    a.pc t = .loaded (c.idx t) ∧ a.rpc.holdsLock = false ∧
    a'.s.next = a.s.next ∧ a'.s.shards = a.s.shards ∧
    (∃ p, a'.pc = upd a.pc t p ∧ (p = .panicked ∨ p = .waitSpace ∨ p = .wrote)) ∧
    a'.rpc = a.rpc ∧ (∀ u, a'.woken u = false → a.woken u = false) := by
  unfold doCs at h
  split at h
  · rename_i cu hp
    split at h
    · rename_i hc
      obtain ⟨hc1, hc2⟩ := hc
      subst hc1
      have hf : (fun r : AState × Ev => r.1.s.next = a.s.next ∧ r.1.s.shards = a.s.shards ∧
          (∃ p, r.1.pc = upd a.pc t p ∧ (p = .panicked ∨ p = .waitSpace ∨ p = .wrote)) ∧
          r.1.rpc = a.rpc ∧ ∀ u, r.1.woken u = false → a.woken u = false)
          (if c.isClose t then csClose a t else csSend a t (c.msg t)) := by
        split
        · exact csClose_frame a t
        · exact csSend_frame a t (c.msg t)
      rw [Option.some.inj h] at hf
      exact ⟨hp, hc2, hf⟩
    · cases h
  · cases h

theorem doAdd_frame {c : Cfg} {a a' : AState} {t : Task} {e : Ev} (h : doAdd c a t = some (a', e)) :
    ∃ cu, a.pc t = .loaded cu ∧ cu < c.idx t ∧ a'.rpc = a.rpc ∧ a'.woken = a.woken ∧
    ((∃ sh, (a.s.shards (shardIdx (c.idx t))).add cu (c.idx t) t = some sh ∧
        a'.s = { a.s with shards := fun k => if k = shardIdx (c.idx t) then sh else a.s.shards k } ∧
        a'.pc = upd a.pc t .waitTurn) ∨
     ((a.s.shards (shardIdx (c.idx t))).add cu (c.idx t) t = none ∧ a'.s = a.s ∧ a'.pc = upd a.pc t .polling)) := by
  unfold doAdd at h
  split at h
  · rename_i cu hp
    split at h
    · rename_i hlt
      refine ⟨cu, hp, hlt, ?_⟩
      unfold waitingAdd at h
      rw [shard_add_matches_source] at h
      cases hs : (a.s.shards (shardIdx (c.idx t))).add cu (c.idx t) t with
      | none => rw [hs] at h; cases h; exact ⟨rfl, rfl, Or.inr ⟨rfl, rfl, rfl⟩⟩
      | some sh => rw [hs] at h; cases h; exact ⟨rfl, rfl, Or.inl ⟨sh, rfl, rfl, rfl⟩⟩
    · cases h
  · cases h

theorem doInc_frame {c : Cfg} {a a' : AState} {t : Task} {e : Ev} (h : doInc c a t = some (a', e)) :
    a.pc t = .wrote ∧ a'.s = { a.s with next := a.s.next + 1 } ∧ a'.rpc = a.rpc ∧ a'.woken = a.woken ∧
    ((a.s.next ≠ c.idx t ∧ a'.pc = upd a.pc t .panicked) ∨
     (a.s.next = c.idx t ∧ a'.pc = upd a.pc t (if c.isClose t then .done else .incd))) := by
  unfold doInc at h
  split at h
  · rename_i hp
    simp only [] at h
    split at h
    · cases h; rename_i hne; exact ⟨hp, rfl, rfl, rfl, Or.inl ⟨hne, rfl⟩⟩
    · cases h; rename_i heq; exact ⟨hp, rfl, rfl, rfl, Or.inr ⟨by simpa using heq, rfl⟩⟩
  · cases h

theorem doWake_frame {c : Cfg} {a a' : AState} {t : Task} {e : Ev} (h : doWake c a t = some (a', e)) :
    a.pc t = .incd ∧ a'.s = (a.s.waitingWake (c.idx t + 1)).1 ∧ a'.pc = upd a.pc t .done ∧
    a'.rpc = a.rpc ∧ a'.woken = mark a.woken (a.s.waitingWake (c.idx t + 1)).2 := by
  unfold doWake at h
  split at h
  · rename_i hp
    simp only [waitingWake_eq] at h
    cases h
    exact ⟨hp, rfl, rfl, rfl, rfl⟩
  · cases h

theorem doRTake_frame {c : Cfg} {a a' : AState} {e : Ev} (h : doRTake c a = some (a', e)) :
    a.rpc.holdsLock = false ∧ a'.s.next = a.s.next ∧ a'.s.shards = a.s.shards ∧ a'.pc = a.pc ∧
    (∀ v n, a'.rpc ≠ .loaded v n) ∧ (∀ u, u ≠ c.reader → a'.woken u = false → a.woken u = false) := by
  unfold doRTake at h
  by_cases hl : a.rpc.holdsLock = true
  · rw [if_pos hl] at h; cases h
  rw [if_neg hl] at h
  have hl' : a.rpc.holdsLock = false := Bool.eq_false_iff.mpr hl
  have hwk : ∀ (l : List Task) u, u ≠ c.reader → mark (upd a.woken c.reader false) l u = false →
      a.woken u = false := fun l u hu hm => upd_other a.woken false hu ▸ mark_false hm
  dsimp only at h
  by_cases hcr : a.s.buf.canRead = true
  · rw [if_pos hcr] at h
    cases h
    exact ⟨hl', rfl, rfl, rfl, nofun, hwk _⟩
  · rw [if_neg hcr] at h
    by_cases hcl : a.s.buf.closed = true
    · rw [if_pos hcl] at h; cases h
      exact ⟨hl', rfl, rfl, rfl, nofun, fun u hu hm => upd_other a.woken false hu ▸ hm⟩
    · rw [if_neg hcl] at h; cases h
      exact ⟨hl', rfl, rfl, rfl, nofun, fun u hu hm => upd_other a.woken false hu ▸ hm⟩

theorem doRLoad_frame {a a' : AState} {e : Ev} (h : doRLoad a = some (a', e)) :
    ∃ v, a.rpc = .took v ∧ a'.s = a.s ∧ a'.pc = a.pc ∧ a'.woken = a.woken ∧ a'.rpc = .loaded v a.s.next := by
  unfold doRLoad at h
  split at h
  · rename_i v hp; cases h; exact ⟨v, hp, rfl, rfl, rfl, rfl⟩
  · cases h

theorem doRWake_frame {a a' : AState} {e : Ev} (h : doRWake a = some (a', e)) :
    ∃ v n, a.rpc = .loaded v n ∧ a'.s = (a.s.waitingWake n).1 ∧ a'.pc = a.pc ∧
    a'.woken = mark a.woken (a.s.waitingWake n).2 ∧ a'.rpc = .idle := by
  unfold doRWake at h
  split at h
  · rename_i v n hp
    simp only [waitingWake_eq] at h
    cases h
    exact ⟨v, n, hp, rfl, rfl, rfl, rfl⟩
  · cases h

end IpaVerif.OrderingSenderAtomic
