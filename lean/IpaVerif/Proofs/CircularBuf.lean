import IpaVerif.Model.CircularBuf
import IpaVerif.Model.QueueSpec
/-! `CircularBuf` against the FIFO queue of `Model/QueueSpec.lean` (C14(a)): the invariant `Inv` and
the simulation relation `R`, with one lemma per operation.  Core Lean only. -/
namespace IpaVerif.CircularBuf

theorem mod_sub {x c : Nat} (h1 : c ≤ x) (h2 : x < 2 * c) : x % c = x - c := by
  rw [Nat.mod_eq_sub_mod h1, Nat.mod_eq_of_lt (by omega)]

theorem mod_two {x c : Nat} (h : x < 2 * c) : x < c ∧ x % c = x ∨ x % c + c = x := by
  rcases Nat.lt_or_ge x c with h' | h'
  · exact .inl ⟨h', Nat.mod_eq_of_lt h'⟩
  · exact .inr (by rw [mod_sub h' h, Nat.sub_add_cancel h'])

theorem mod_wrap {x c : Nat} (h : x < 2 * c) : x % (c * 2) = x :=
  Nat.mod_eq_of_lt (Nat.mul_comm _ _ ▸ h)

theorem mod_lt3 {x c : Nat} (h : x < 3 * c) :
    x % c = if x < c then x else if x < 2 * c then x - c else x - 2 * c := by
  split
  · exact Nat.mod_eq_of_lt ‹_›
  · split
    · exact mod_sub (by omega) ‹_›
    · rw [Nat.mod_eq_sub_mod (by omega), mod_sub (by omega) (by omega), Nat.sub_sub, ← Nat.two_mul]

theorem dvd_step {a x c : Nat} (hx : a ∣ x) (hc : a ∣ c) (h : x < c) : x + a ≤ c := by
  obtain ⟨k, rfl⟩ := hx
  obtain ⟨j, rfl⟩ := hc
  have : k < j := Nat.lt_of_mul_lt_mul_left h
  calc a * k + a = a * (k + 1) := by rw [Nat.mul_succ]
    _ ≤ a * j := Nat.mul_le_mul_left _ this

/-- The `n` entries of `d` from position `s` on, wrapping around at the end of `d`. -/
def cyc (d : List Nat) (s n : Nat) : List Nat :=
  (List.range n).map (fun k => d.getD ((s + k) % d.length) 0)

theorem cyc_getElem? (d : List Nat) (s n k : Nat) :
    (cyc d s n)[k]? = if k < n then some (d.getD ((s + k) % d.length) 0) else none := by
  simp only [cyc, List.getElem?_map]
  split <;> simp [*]

theorem cyc_length (d : List Nat) (s n : Nat) : (cyc d s n).length = n := by simp [cyc]

theorem cyc_congr {d d' : List Nat} {s n : Nat} (hL : d'.length = d.length)
    (h : ∀ k < n, d'[(s + k) % d.length]? = d[(s + k) % d.length]?) : cyc d' s n = cyc d s n := by
  unfold cyc
  apply List.map_congr_left
  intro k hk
  rw [List.getD_eq_getElem?_getD, List.getD_eq_getElem?_getD, hL, h k (List.mem_range.mp hk)]

theorem cyc_append (d : List Nat) (s n k : Nat) :
    cyc d s (n + k) = cyc d s n ++ cyc d ((s + n) % d.length) k := by
  simp only [cyc, List.range_add, List.map_append, List.map_map]
  congr 1
  apply List.map_congr_left
  intro j _
  simp only [Function.comp, Nat.mod_add_mod, Nat.add_assoc]

theorem cyc_nowrap {d : List Nat} {s n : Nat} (h : s + n ≤ d.length) :
    cyc d s n = (d.drop s).take n := by
  apply List.ext_getElem?
  intro k
  rw [cyc_getElem?, List.getElem?_take, List.getElem?_drop]
  split
  · rw [Nat.mod_eq_of_lt (by omega), List.getD_eq_getElem?_getD, List.getElem?_eq_getElem (by omega)]
    simp
  · rfl

/-- The `k + 1` entries from `s` to the inclusive end `(s + k) % d.length`, cut as `Buf.take` cuts them. -/
theorem cyc_slice {d : List Nat} {s k : Nat} (hs : s < d.length) (hk : k < d.length) :
    cyc d s (k + 1) = if (s + k) % d.length < s then d.drop s ++ d.take ((s + k) % d.length + 1)
      else (d.drop s).take ((s + k) % d.length + 1 - s) := by
  rcases Nat.lt_or_ge (s + k) d.length with h | h
  · rw [Nat.mod_eq_of_lt h, if_neg (Nat.not_lt.2 (Nat.le_add_right s k)), cyc_nowrap h, Nat.add_assoc,
      Nat.add_sub_cancel_left]
  · -- `d.length - s` entries up to the end of `d`, then `j + 1` from its start
    obtain ⟨j, hj⟩ := Nat.exists_eq_add_of_le h
    obtain ⟨e, hjs⟩ : k + 1 = (d.length - s) + (j + 1) ∧ j < s := by omega
    rw [hj, Nat.add_mod_left, Nat.mod_eq_of_lt (Nat.lt_trans hjs hs), if_pos hjs, e, cyc_append,
      Nat.add_sub_cancel' (Nat.le_of_lt hs), Nat.mod_self, cyc_nowrap (by omega), cyc_nowrap (by omega),
      List.take_of_length_le (Nat.le_of_eq List.length_drop), List.drop_zero]

theorem cyc_take (d : List Nat) (s : Nat) {m n : Nat} (h : m ≤ n) :
    (cyc d s n).take m = cyc d s m := by
  obtain ⟨k, rfl⟩ := Nat.exists_eq_add_of_le h
  rw [cyc_append, List.take_left' (cyc_length d s m)]

theorem cyc_drop (d : List Nat) (s : Nat) {m n : Nat} (h : m ≤ n) :
    (cyc d s n).drop m = cyc d ((s + m) % d.length) (n - m) := by
  obtain ⟨k, rfl⟩ := Nat.exists_eq_add_of_le h
  rw [cyc_append, List.drop_left' (cyc_length d s m), Nat.add_sub_cancel_left]

theorem patch_length {d m : List Nat} {w : Nat} (hfit : w + m.length ≤ d.length) :
    (d.take w ++ m ++ d.drop (w + m.length)).length = d.length := by
  simp only [List.length_append, List.length_take, List.length_drop]
  omega

theorem patch_getElem? {d m : List Nat} {w j : Nat} (hfit : w + m.length ≤ d.length)
    (hj : j < w ∨ w + m.length ≤ j) : (d.take w ++ m ++ d.drop (w + m.length))[j]? = d[j]? := by
  simp only [List.getElem?_append, List.length_take, List.length_append, List.getElem?_take,
    List.getElem?_drop, Nat.min_eq_left (show w ≤ d.length by omega)]
  rcases hj with h | h
  · rw [if_pos (by omega), if_pos h, if_pos h]
  · rw [if_neg (Nat.not_lt.2 h), Nat.add_sub_cancel' h]

theorem cyc_write {d m : List Nat} {s n w : Nat} (hs : s < d.length)
    (hw : w = (s + n) % d.length) (hfit : w + m.length ≤ d.length) (hroom : n + m.length ≤ d.length) :
    cyc (d.take w ++ m ++ d.drop (w + m.length)) s (n + m.length) = cyc d s n ++ m := by
  have hL := patch_length hfit
  have hm : cyc (d.take w ++ m ++ d.drop (w + m.length)) w m.length = m := by
    rw [cyc_nowrap (by rw [hL]; exact hfit), List.append_assoc,
      List.drop_left' (List.length_take_of_le (Nat.le_of_add_right_le hfit)), List.take_left' rfl]
  rw [cyc_append, hL, ← hw, hm]
  congr 1
  apply cyc_congr hL
  intro k hk
  apply patch_getElem? hfit
  -- the `n` places from `s` on end at `w`, and the `m.length ≤ d.length - n` after `w` do not reach `s` again
  have := @mod_two (s + k) d.length
  have := @mod_two (s + n) d.length
  omega

open Buf

structure Inv (b : Buf) : Prop where
  wsPos : 0 < b.writeSize
  rsPos : 0 < b.readSize
  capPos : 0 < b.capacity
  wsCap : b.writeSize ∣ b.capacity
  wsRs : b.writeSize ∣ b.readSize
  rLt : b.read < 2 * b.capacity
  wLt : b.write < 2 * b.capacity
  rAl : b.writeSize ∣ b.read
  wAl : b.writeSize ∣ b.write
  ahead : (b.read ≤ b.write ∧ b.write - b.read ≤ b.capacity) ∨
          (b.write < b.read ∧ b.capacity ≤ b.read - b.write)

/-- Abstraction function: the queued bytes, oldest first. -/
def abs (b : Buf) : List Nat := cyc b.data (b.mask b.read) b.len

theorem abs_length (b : Buf) : (abs b).length = b.len := cyc_length _ _ _

/-! The write cursor is `dist ≤ c` steps ahead of the read cursor on the circle `[0, 2c)`.
`ahead_of_offset` and `offset_of_ahead` translate between that and the case distinction of
`Inv.ahead`, so that moving a cursor is arithmetic modulo `2c`. -/

def dist (c r w : Nat) : Nat := if r ≤ w then w - r else 2 * c + w - r

theorem ahead_of_offset {c r n w : Nat} (hr : r < 2 * c) (hn : n ≤ c) (hw : w = (r + n) % (c * 2)) :
    ((r ≤ w ∧ w - r ≤ c) ∨ (w < r ∧ c ≤ r - w)) ∧ dist c r w = n := by
  subst hw
  unfold dist
  rcases Nat.lt_or_ge (r + n) (c * 2) with h | h
  · rw [Nat.mod_eq_of_lt h, if_pos (Nat.le_add_right r n), Nat.add_sub_cancel_left]
    exact ⟨.inl ⟨Nat.le_add_right r n, hn⟩, rfl⟩
  · obtain ⟨j, hj⟩ := Nat.exists_eq_add_of_le h
    obtain ⟨h1, h2, h3⟩ : j < r ∧ c ≤ r - j ∧ 2 * c + j - r = n := by omega
    rw [hj, Nat.add_mod_left, mod_wrap (Nat.lt_trans h1 hr), if_neg (Nat.not_le.2 h1)]
    exact ⟨.inr ⟨h1, h2⟩, h3⟩

theorem offset_of_ahead {c r w : Nat} (hr : r < 2 * c) (hw : w < 2 * c)
    (h : (r ≤ w ∧ w - r ≤ c) ∨ (w < r ∧ c ≤ r - w)) :
    dist c r w ≤ c ∧ w = (r + dist c r w) % (c * 2) := by
  unfold dist
  rcases h with ⟨h1, h2⟩ | ⟨h1, h2⟩
  · rw [if_pos h1, Nat.add_sub_cancel' h1, mod_wrap hw]
    exact ⟨h2, rfl⟩
  · have e : 2 * c + w - r ≤ c ∧ r + (2 * c + w - r) = w + c * 2 := by omega
    rw [if_neg (Nat.not_le.2 h1), e.2, Nat.add_mod_right, mod_wrap hw]
    exact ⟨e.1, rfl⟩

theorem len_eq {b : Buf} (h : Inv b) : b.len = dist b.capacity b.read b.write := by
  unfold len wrap mask dist Generated.Buffers.circWrapFactor
  rcases h.ahead with ⟨h1, h2⟩ | ⟨h1, h2⟩
  · rw [if_pos h1, if_pos h1, mod_wrap (Nat.lt_of_le_of_lt (Nat.sub_le _ _) h.wLt)]
  · -- `write < capacity ≤ read`
    obtain ⟨j, hj⟩ := Nat.exists_eq_add_of_le (Nat.le_trans h2 (Nat.sub_le _ _))
    have hlt : j < b.capacity ∧ b.write < b.capacity := by have := h.rLt; omega
    rw [if_neg (Nat.not_le.2 h1), if_neg (Nat.not_le.2 h1), hj, Nat.add_mod_left, Nat.mod_eq_of_lt hlt.1,
      Nat.mod_eq_of_lt hlt.2, Nat.two_mul, Nat.add_assoc, Nat.add_sub_add_left]

theorem len_le {b : Buf} (h : Inv b) : b.len ≤ b.capacity :=
  len_eq h ▸ (offset_of_ahead h.rLt h.wLt h.ahead).1

theorem write_eq {b : Buf} (h : Inv b) : b.write = b.inc b.read b.len :=
  len_eq h ▸ (offset_of_ahead h.rLt h.wLt h.ahead).2

theorem inc_lt {b : Buf} (h : Inv b) (v δ : Nat) : b.inc v δ < 2 * b.capacity :=
  Nat.mul_comm _ _ ▸ Nat.mod_lt _ (Nat.mul_pos h.capPos Nat.two_pos)

theorem inc_dvd {b : Buf} (h : Inv b) {v δ : Nat} (hv : b.writeSize ∣ v) (hδ : b.writeSize ∣ δ) :
    b.writeSize ∣ b.inc v δ :=
  (Nat.dvd_mod_iff (Nat.dvd_mul_right_of_dvd h.wsCap 2)).2 (Nat.dvd_add hv hδ)

theorem inc_add (b : Buf) (v δ n : Nat) :
    (b.inc v δ + n) % (b.capacity * 2) = (v + (δ + n)) % (b.capacity * 2) := by
  show ((v + δ) % (b.capacity * 2) + n) % _ = _
  rw [Nat.mod_add_mod, Nat.add_assoc]

theorem Inv.of_offset {b b' : Buf} (h : Inv b) (hcap : b'.capacity = b.capacity)
    (hws : b'.writeSize = b.writeSize) (hrs : b'.readSize = b.readSize) {n : Nat}
    (hn : n ≤ b.capacity) (hnal : b.writeSize ∣ n) (hr : b'.read < 2 * b.capacity)
    (hral : b.writeSize ∣ b'.read) (hw : b'.write = (b'.read + n) % (b.capacity * 2)) :
    Inv b' ∧ b'.len = n := by
  obtain ⟨ha, hd⟩ := ahead_of_offset hr hn hw
  rw [← hcap] at ha hd
  have hinv : Inv b' := by
    refine ⟨hws ▸ h.wsPos, hrs ▸ h.rsPos, hcap ▸ h.capPos, hws ▸ hcap ▸ h.wsCap, hws ▸ hrs ▸ h.wsRs,
      hcap ▸ hr, ?_, hws ▸ hral, ?_, ha⟩
    · rw [hw, hcap]; exact inc_lt h _ _
    · rw [hw, hws]; exact inc_dvd h hral hnal
  exact ⟨hinv, (len_eq hinv).trans hd⟩

theorem len_dvd {b : Buf} (h : Inv b) : b.writeSize ∣ b.len := by
  rw [len_eq h, dist]
  split
  · exact Nat.dvd_sub h.wAl h.rAl
  · exact Nat.dvd_sub (Nat.dvd_add (Nat.dvd_mul_left_of_dvd h.wsCap 2) h.wAl) h.rAl

theorem isEmpty_iff {b : Buf} (h : Inv b) : b.isEmpty = true ↔ b.len = 0 := by
  rw [isEmpty, beq_iff_eq]
  constructor
  · intro he
    rw [len_eq h, dist, ← he, if_pos (Nat.le_refl _), Nat.sub_self]
  · intro h0
    have := write_eq h
    rw [h0] at this
    exact (this.trans (mod_wrap h.rLt)).symm

theorem canRead_iff {b : Buf} (h : Inv b) :
    b.canRead = true ↔ (b.closed = true ∧ b.len ≠ 0) ∨ b.readSize ≤ b.len := by
  simp only [canRead, Bool.or_eq_true, Bool.and_eq_true, Bool.not_eq_true', decide_eq_true_eq,
    ge_iff_le, ← Bool.not_eq_true, isEmpty_iff h]

theorem canWrite_iff (b : Buf) :
    b.canWrite = true ↔ b.closed = false ∧ b.writeSize ≤ b.capacity - b.len := by
  simp [canWrite, remaining]

theorem new_ok_iff {cap ws rs : Nat} {b : Buf} : Buf.new cap ws rs = .ok b ↔
    (0 < cap ∧ 0 < ws ∧ 0 < rs ∧ cap % ws = 0 ∧ rs % ws = 0) ∧
    b = { write := 0, read := 0, readSize := rs, writeSize := ws, closed := false,
          data := List.replicate cap 0 } := by
  unfold Buf.new
  split
  · exact ⟨nofun, fun h => by omega⟩
  split
  · exact ⟨nofun, fun h => by omega⟩
  split
  · exact ⟨nofun, fun h => by omega⟩
  · exact ⟨fun h => ⟨by omega, (Except.ok.inj h).symm⟩, fun h => h.2 ▸ rfl⟩

structure R (c : Cfg) (b : Buf) (s : Q) : Prop where
  inv : Inv b
  abs_eq : abs b = s.q
  closed_eq : b.closed = s.closed
  cap_eq : b.capacity = c.cap
  ws_eq : b.writeSize = c.ws
  rs_eq : b.readSize = c.rs

theorem R.len_eq {c : Cfg} {b : Buf} {s : Q} (r : R c b s) : b.len = s.q.length := by
  rw [← r.abs_eq, abs_length]

theorem R.new {cap ws rs : Nat} {b : Buf} (h : Buf.new cap ws rs = .ok b) :
    R ⟨cap, ws, rs⟩ b ⟨[], false⟩ := by
  obtain ⟨⟨h1, h2, h3, h4, h5⟩, rfl⟩ := new_ok_iff.mp h
  generalize hd : List.replicate cap 0 = d
  obtain rfl : d.length = cap := by rw [← hd]; exact List.length_replicate
  have hl : Buf.len ⟨0, 0, rs, ws, false, d⟩ = 0 := Nat.zero_mod _
  refine ⟨⟨h2, h3, h1, Nat.dvd_of_mod_eq_zero h4, Nat.dvd_of_mod_eq_zero h5, Nat.mul_pos Nat.two_pos h1,
    Nat.mul_pos Nat.two_pos h1, Nat.dvd_zero _, Nat.dvd_zero _, .inl ⟨Nat.le_refl _, Nat.zero_le _⟩⟩,
    ?_, rfl, rfl, rfl, rfl⟩
  rw [abs, hl]; rfl

theorem R.canRead_iff {c : Cfg} {b : Buf} {s : Q} (r : R c b s) :
    b.canRead = true ↔ (s.closed = true ∧ s.q ≠ []) ∨ c.rs ≤ s.q.length := by
  rw [CircularBuf.canRead_iff r.inv, r.len_eq, r.closed_eq, r.rs_eq, Ne, List.length_eq_zero_iff]

theorem R.canWrite_iff {c : Cfg} {b : Buf} {s : Q} (r : R c b s) :
    b.canWrite = true ↔ s.closed = false ∧ c.ws ≤ c.cap - s.q.length := by
  rw [CircularBuf.canWrite_iff, r.len_eq, r.closed_eq, r.ws_eq, r.cap_eq]

theorem R.obs_eq {c : Cfg} {b : Buf} {s : Q} (r : R c b s) : b.obs = specObs c s := by
  simp only [Buf.obs, specObs, Obs.mk.injEq]
  exact ⟨r.len_eq, by rw [Bool.eq_iff_iff, r.canRead_iff, decide_eq_true_iff],
    by rw [Bool.eq_iff_iff, r.canWrite_iff, decide_eq_true_iff], r.closed_eq⟩

theorem R.close {c : Cfg} {b : Buf} {q : List Nat} (r : R c b ⟨q, false⟩) :
    R c { b with closed := true } ⟨q, true⟩ :=
  -- no field of `Inv` mentions `closed`
  ⟨{ r.inv with }, r.abs_eq, rfl, r.cap_eq, r.ws_eq, r.rs_eq⟩

theorem take_eq {b : Buf} (h : Inv b) (hc : b.canRead = true) {δ : Nat}
    (hδ : min b.readSize b.len = δ) :
    b.take = ({ b with read := b.inc b.read δ }, cyc b.data (b.mask b.read) δ) := by
  have hle : b.len ≤ b.data.length := len_le h
  have hpos : δ ≠ 0 := by
    have := h.rsPos
    rcases (canRead_iff h).mp hc with ⟨_, h2⟩ | h2 <;> omega
  obtain ⟨k, rfl⟩ := Nat.exists_eq_succ_of_ne_zero hpos
  have he : b.mask (b.read + (k + 1) - 1) = (b.mask b.read + k) % b.data.length :=
    (Nat.mod_add_mod _ _ _).symm
  simp only [Buf.take, hc, hδ, he, Bool.not_true, Bool.false_eq_true, if_false]
  exact congrArg (Prod.mk _) (cyc_slice (Nat.mod_lt _ h.capPos) (by omega)).symm

theorem dvd_min {a x y : Nat} (hx : a ∣ x) (hy : a ∣ y) : a ∣ min x y := by
  rcases Nat.le_total x y with h | h
  · rwa [Nat.min_eq_left h]
  · rwa [Nat.min_eq_right h]

theorem R.take {c : Cfg} {b : Buf} {s : Q} (r : R c b s) (hc : b.canRead = true) :
    b.take.2 = s.q.take (min c.rs s.q.length) ∧
    R c b.take.1 ⟨s.q.drop (min c.rs s.q.length), s.closed⟩ := by
  have h := r.inv
  have hle := len_le h
  have hrs := h.rsPos
  rw [← r.rs_eq, ← r.len_eq, ← r.abs_eq]
  have hδle : min b.readSize b.len ≤ b.len := Nat.min_le_right _ _
  have hδdvd : b.writeSize ∣ min b.readSize b.len := dvd_min h.wsRs (len_dvd h)
  generalize hδ : min b.readSize b.len = δ at *
  obtain ⟨hinv, hlen⟩ := h.of_offset (b' := { b with read := b.inc b.read δ }) rfl rfl rfl
    (n := b.len - δ) (by omega) (Nat.dvd_sub (len_dvd h) hδdvd) (inc_lt h _ _) (inc_dvd h h.rAl hδdvd)
    (by rw [inc_add, Nat.add_sub_cancel' hδle]; exact write_eq h)
  rw [take_eq h hc hδ]
  refine ⟨(cyc_take _ _ hδle).symm, hinv, ?_, r.closed_eq, r.cap_eq, r.ws_eq, r.rs_eq⟩
  show cyc b.data ((b.read + δ) % (b.capacity * 2) % b.capacity) (Buf.len _) = (cyc _ _ _).drop δ
  rw [hlen, cyc_drop _ _ hδle, Nat.mod_mul_right_mod]
  exact congrArg (cyc _ · _) (Nat.mod_add_mod _ _ _).symm

theorem write_pos {b : Buf} (h : Inv b) :
    b.mask b.write = (b.mask b.read + b.len) % b.data.length ∧
    b.mask b.write + b.writeSize ≤ b.data.length ∧
    b.mask (b.write + b.writeSize - 1) + 1 = b.mask b.write + b.writeSize := by
  have hfit : b.mask b.write + b.writeSize ≤ b.capacity :=
    dvd_step ((Nat.dvd_mod_iff h.wsCap).2 h.wAl) h.wsCap (Nat.mod_lt _ h.capPos)
  refine ⟨?_, hfit, ?_⟩
  · show b.write % b.capacity = (b.read % b.capacity + b.len) % b.capacity
    rw [Nat.mod_add_mod, write_eq h]
    exact Nat.mod_mul_right_mod _ _ _
  · obtain ⟨k, hk⟩ := Nat.exists_eq_succ_of_ne_zero (Nat.ne_of_gt h.wsPos)
    rw [hk] at hfit ⊢
    show (b.write + k) % b.capacity + 1 = b.write % b.capacity + k + 1
    rw [← Nat.mod_add_mod]
    exact congrArg (· + 1) (Nat.mod_eq_of_lt hfit)

theorem writeMsg_eq {b : Buf} (h : Inv b) {m : List Nat} (hc : b.closed = false)
    (hroom : b.writeSize ≤ b.capacity - b.len) (hm : m.length = b.writeSize) :
    b.writeMsg m = .ok { b with data := b.data.take (b.mask b.write) ++ m ++
                                  b.data.drop (b.mask b.write + m.length),
                                write := b.inc b.write b.writeSize } := by
  have hcw : b.canWrite = true := (canWrite_iff b).mpr ⟨hc, hroom⟩
  unfold writeMsg
  simp only [hc, hcw, hm, (write_pos h).2.2, Nat.add_sub_cancel_left,
    Nat.not_lt.2 (Nat.le_add_right (b.mask b.write) b.writeSize)]
  simp only [Bool.false_eq_true, if_false, Bool.not_true, ne_eq, not_true_eq_false, or_self]

theorem writeMsg_error {b : Buf} {m : List Nat} {e : String} (h : b.writeMsg m = .error e) :
    e = "Writing to a closed buffer" ∨ e = "Not enough space for the next write" ∨
    e = "Expect to keep messages of size" ∨ e = "slice" := by
  unfold writeMsg at h
  by_cases h1 : b.closed = true
  · rw [if_pos h1] at h; cases h; exact .inl rfl
  rw [if_neg h1] at h
  by_cases h2 : (!b.canWrite) = true
  · rw [if_pos h2] at h; cases h; exact .inr (.inl rfl)
  rw [if_neg h2] at h
  by_cases h3 : m.length ≠ b.writeSize
  · rw [if_pos h3] at h; cases h; exact .inr (.inr (.inl rfl))
  rw [if_neg h3] at h
  dsimp only at h
  split at h
  · cases h; exact .inr (.inr (.inr rfl))
  · cases h

theorem writeMsg_ok {b b' : Buf} {m : List Nat} (hb : b.writeMsg m = .ok b') :
    b.closed = false ∧ b.writeSize ≤ b.capacity - b.len ∧ m.length = b.writeSize := by
  unfold writeMsg at hb
  by_cases h1 : b.closed = true
  · rw [if_pos h1] at hb; cases hb
  by_cases h2 : b.canWrite = true
  case neg => rw [if_neg h1, Bool.eq_false_iff.2 h2, Bool.not_false, if_pos rfl] at hb; cases hb
  by_cases h3 : m.length ≠ b.writeSize
  · rw [if_neg h1, h2, Bool.not_true, if_neg Bool.false_ne_true, if_pos h3] at hb; cases hb
  have := (canWrite_iff b).mp h2
  exact ⟨this.1, this.2, Decidable.not_not.mp h3⟩

theorem R.writeMsg_ok_iff {c : Cfg} {b : Buf} {s : Q} (r : R c b s) (m : List Nat) :
    (∃ b', b.writeMsg m = .ok b') ↔
      s.closed = false ∧ c.ws ≤ c.cap - s.q.length ∧ m.length = c.ws := by
  rw [← r.closed_eq, ← r.ws_eq, ← r.cap_eq, ← r.len_eq]
  exact ⟨fun ⟨_, hb⟩ => writeMsg_ok hb, fun ⟨h1, h2, h3⟩ => ⟨_, writeMsg_eq r.inv h1 h2 h3⟩⟩

theorem R.write {c : Cfg} {b b' : Buf} {s : Q} (r : R c b s) {m : List Nat}
    (hw : b.writeMsg m = .ok b') : R c b' ⟨s.q ++ m, s.closed⟩ := by
  have h := r.inv
  obtain ⟨h1, h2, h3⟩ := writeMsg_ok hw
  obtain ⟨hpos, hfit, _⟩ := write_pos h
  rw [← h3] at hfit
  have hroom : b.len + b.writeSize ≤ b.capacity := Nat.add_le_of_le_sub' (len_le h) h2
  have hd := patch_length hfit
  obtain rfl := Except.ok.inj ((writeMsg_eq h h1 h2 h3).symm.trans hw)
  obtain ⟨hinv, hlen⟩ := h.of_offset (b' := { b with data := _, write := b.inc b.write b.writeSize })
    hd rfl rfl (n := b.len + b.writeSize) hroom (Nat.dvd_add (len_dvd h) (Nat.dvd_refl _)) h.rLt h.rAl
    (by rw [← inc_add, ← write_eq h]; rfl)
  refine ⟨hinv, ?_, r.closed_eq, hd.trans r.cap_eq, r.ws_eq, r.rs_eq⟩
  rw [← r.abs_eq]
  show cyc _ (b.read % List.length _) (Buf.len _) = cyc _ _ _ ++ m
  rw [hlen, hd, ← h3]
  exact cyc_write (Nat.mod_lt _ h.capPos) hpos hfit (h3 ▸ hroom)

theorem R.sim {c : Cfg} {b : Buf} {s : Q} (r : R c b s) (op : Op) :
    (∀ e, step b op = .error e → specStep c s op = none) ∧
    ∀ b' o, step b op = .ok (b', o) → ∃ s', specStep c s op = some (s', o) ∧ R c b' s' := by
  cases op with
  | write m =>
    dsimp only [step, specStep]
    have hiff := r.writeMsg_ok_iff m
    cases hw : b.writeMsg m with
    | error e =>
      refine ⟨fun _ _ => if_neg fun hc => ?_, nofun⟩
      obtain ⟨b', hb'⟩ := hiff.mpr hc
      rw [hw] at hb'; cases hb'
    | ok b' =>
      exact ⟨nofun, fun _ _ h => by cases h; exact ⟨_, if_pos (hiff.mp ⟨b', hw⟩), r.write hw⟩⟩
  | take =>
    dsimp only [step, specStep]
    refine ⟨nofun, fun _ _ h => ?_⟩
    cases h
    by_cases hc : b.canRead = true
    · rw [if_pos (r.canRead_iff.mp hc), (r.take hc).1]
      exact ⟨_, rfl, (r.take hc).2⟩
    · rw [if_neg (fun h => hc (r.canRead_iff.mpr h)), show b.take = (b, []) by simp [Buf.take, hc]]
      exact ⟨_, rfl, r⟩
  | close =>
    dsimp only [step, specStep, Buf.close]
    rw [r.closed_eq]
    obtain ⟨q, cl⟩ := s
    cases cl
    · exact ⟨nofun, fun _ _ h => by cases h; exact ⟨_, rfl, r.close⟩⟩
    · exact ⟨fun _ _ => rfl, nofun⟩

theorem specStep_ne_panic {c : Cfg} {s s' : Q} {op : Op} {o : Out}
    (h : specStep c s op = some (s', o)) (msg : String) : o ≠ .panic msg := by
  rintro rfl
  cases op <;> simp only [specStep] at h <;> split at h <;> cases h

theorem R.run_eq {c : Cfg} (ops : List Op) : ∀ {b : Buf} {s : Q}, R c b s →
    (run b ops).map (fun p => (p.1.eraseMsg, p.2)) = specRun c s ops := by
  induction ops with
  | nil => intros; rfl
  | cons op rest ih =>
    intro b s r
    simp only [IpaVerif.CircularBuf.run, specRun]
    cases h1 : step b op with
    | error e => rw [(r.sim op).1 e h1]; rfl
    | ok p =>
      obtain ⟨b', o⟩ := p
      obtain ⟨s', h2, r'⟩ := (r.sim op).2 _ _ h1
      have ho : o.eraseMsg = o := by
        cases o with
        | panic m => exact absurd rfl (specStep_ne_panic h2 m)
        | _ => rfl
      simp only [h2, List.map_cons, ih r', r'.obs_eq, ho]

theorem R.exec {c : Cfg} (ops : List Op) : ∀ {b b' : Buf} {s : Q}, R c b s → exec b ops = .ok b' →
    ∃ s', R c b' s' := by
  induction ops with
  | nil => intro b b' s r h; cases h; exact ⟨s, r⟩
  | cons op rest ih =>
    intro b b' s r h
    simp only [CircularBuf.exec] at h
    cases h1 : step b op with
    | error e => rw [h1] at h; cases h
    | ok p =>
      obtain ⟨b1, o⟩ := p
      rw [h1] at h
      obtain ⟨s', _, r'⟩ := (r.sim op).2 _ _ h1
      exact ih r' h

theorem R.full_can_read {c : Cfg} {b : Buf} {s : Q} (r : R c b s) (hrs : c.rs ≤ c.cap)
    (hopen : b.closed = false) (hfull : b.canWrite = false) : b.canRead = true := by
  rw [CircularBuf.canRead_iff r.inv, r.rs_eq]
  right
  have hnw : ¬ b.writeSize ≤ b.capacity - b.len := fun hc =>
    Bool.false_ne_true (hfull.symm.trans ((CircularBuf.canWrite_iff b).mpr ⟨hopen, hc⟩))
  have hle := len_le r.inv
  -- `len` is a multiple of `ws` above `cap - ws`, hence `cap`
  have hlt : ¬ b.len < b.capacity := fun hlt => by
    have := dvd_step (len_dvd r.inv) r.inv.wsCap hlt
    omega
  have := r.cap_eq
  omega

end IpaVerif.CircularBuf
