import IpaVerif.Model.PrimeField
import Mathlib.Data.ZMod.Basic
import Mathlib.Tactic.Ring
/-!
# Correctness of the sign-tracking extended Euclid loop of `PrimeField::invert`

Invariant of the loop (all quantities unsigned, `σ = +1` if `sign = 1` else `-1`):
`sign ≤ 1`, `newr < r`, `gcd r newr = 1`, `t·newr + newt·r = p`, `t ≤ newt`,
`newr ≡ σ·newt·a` and `r ≡ -σ·t·a (mod p)`. The product `r·newr` at least halves in every
iteration, so 200 iterations of fuel suffice for every modulus below `2^100`.
-/
namespace IpaVerif.Invert
open IpaVerif.PrimeField

def sigma (p sign : ℕ) : ZMod p := if sign = 1 then 1 else -1

structure Inv (p a : ℕ) (s : InvState) : Prop where
  sign_le : s.sign ≤ 1
  lt : s.newr < s.r
  gcd : Nat.gcd s.r s.newr = 1
  det : s.t * s.newr + s.newt * s.r = p
  mono : s.t ≤ s.newt
  newr_cong : (s.newr : ZMod p) = sigma p s.sign * s.newt * a
  r_cong : (s.r : ZMod p) = -sigma p s.sign * s.t * a

theorem sigma_flip (p sign : ℕ) (h : sign ≤ 1) : sigma p (1 - sign) = -sigma p sign := by
  rcases Nat.le_one_iff_eq_zero_or_eq_one.mp h with rfl | rfl <;> simp [sigma]

theorem inv_init {p a : ℕ} (hp : Nat.Prime p) (ha0 : a ≠ 0) (ha : a < p) :
    Inv p a { t := 0, newt := 1, r := p, newr := a, sign := 1 } where
  sign_le := Nat.le_refl 1
  lt := ha
  gcd := (Nat.Prime.coprime_iff_not_dvd hp).mpr fun h => Nat.not_le.mpr ha (Nat.le_of_dvd (Nat.pos_of_ne_zero ha0) h)
  det := by simp
  mono := Nat.zero_le 1
  newr_cong := by simp [sigma]
  r_cong := by simp [sigma]

theorem invStep_eq (s : InvState) : invStep s =
    { t := s.newt, newt := s.t + s.r / s.newr * s.newt, r := s.newr, newr := s.r % s.newr, sign := 1 - s.sign } := by
  rw [invStep, ← Nat.mod_eq_sub_div_mul]

theorem inv_step {p a : ℕ} {s : InvState} (h : Inv p a s) (hn : s.newr ≠ 0) : Inv p a (invStep s) := by
  have hpos : 0 < s.newr := Nat.pos_of_ne_zero hn
  have hq : 1 ≤ s.r / s.newr := Nat.div_pos (Nat.le_of_lt h.lt) hpos
  have hdm := Nat.div_add_mod s.r s.newr
  have hflip := sigma_flip p s.sign h.sign_le
  rw [invStep_eq]
  refine ⟨Nat.sub_le 1 _, Nat.mod_lt _ hpos, ?_, ?_, ?_, ?_, ?_⟩
  · show Nat.gcd s.newr (s.r % s.newr) = 1
    rw [Nat.gcd_comm, ← Nat.gcd_rec, Nat.gcd_comm]; exact h.gcd
  · show s.newt * (s.r % s.newr) + (s.t + s.r / s.newr * s.newt) * s.newr = p
    generalize s.r / s.newr = q at hdm ⊢
    generalize s.r % s.newr = m at hdm ⊢
    rw [← h.det, ← hdm]
    ring
  · exact Nat.le_trans (Nat.le_mul_of_pos_left _ hq) (Nat.le_add_left _ _)
  · show ((s.r % s.newr : ℕ) : ZMod p) = sigma p (1 - s.sign) * ((s.t + s.r / s.newr * s.newt : ℕ) : ZMod p) * a
    have hcast : ((s.r % s.newr : ℕ) : ZMod p) = s.r - s.newr * (s.r / s.newr : ℕ) := by
      rw [eq_sub_iff_add_eq', ← Nat.cast_mul, ← Nat.cast_add, hdm]
    rw [hcast, hflip, h.r_cong, h.newr_cong, Nat.cast_add, Nat.cast_mul]
    ring
  · show (s.newr : ZMod p) = -sigma p (1 - s.sign) * s.newt * a
    rw [hflip, neg_neg]; exact h.newr_cong

theorem step_halves {s : InvState} (hlt : s.newr < s.r) (hn : s.newr ≠ 0) :
    2 * ((invStep s).r * (invStep s).newr) ≤ s.r * s.newr := by
  have hpos : 0 < s.newr := Nat.pos_of_ne_zero hn
  have h1 : s.r % s.newr < s.newr := Nat.mod_lt _ hpos
  have h2 : s.newr * 1 ≤ s.newr * (s.r / s.newr) := Nat.mul_le_mul_left _ (Nat.div_pos (Nat.le_of_lt hlt) hpos)
  have hdm := Nat.div_add_mod s.r s.newr
  rw [invStep_eq]
  show 2 * (s.newr * (s.r % s.newr)) ≤ s.r * s.newr
  rw [Nat.mul_left_comm, Nat.mul_comm s.r]
  exact Nat.mul_le_mul_left _ (by omega)

theorem invLoop_spec {p a : ℕ} (fuel : ℕ) (s : InvState) (h : Inv p a s) (hf : s.r * s.newr < 2 ^ fuel) :
    Inv p a (invLoop fuel s) ∧ (invLoop fuel s).newr = 0 := by
  induction fuel generalizing s with
  | zero =>
    have hr : s.newr = 0 := by
      rcases Nat.mul_eq_zero.mp (Nat.lt_one_iff.mp hf) with h0 | h0
      · have := h.lt; omega
      · exact h0
    exact ⟨h, hr⟩
  | succ fuel ih =>
    rw [invLoop]
    by_cases hn : s.newr = 0
    · rw [if_pos hn]; exact ⟨h, hn⟩
    · rw [if_neg hn]
      apply ih _ (inv_step h hn)
      have := step_halves h.lt hn
      rw [Nat.pow_succ] at hf
      omega

theorem inv_final {p a : ℕ} (hp : Nat.Prime p) {s : InvState} (h : Inv p a s) (h0 : s.newr = 0) :
    let out := (1 - s.sign) * s.t + s.sign * (p - s.t)
    out < p ∧ (out : ZMod p) * a = 1 := by
  have : Fact (Nat.Prime p) := ⟨hp⟩
  have hr : s.r = 1 := by have := h.gcd; rwa [h0, Nat.gcd_zero_right] at this
  have hnewt : s.newt = p := by have := h.det; rwa [h0, hr, Nat.mul_zero, Nat.zero_add, Nat.mul_one] at this
  have htle : s.t ≤ p := hnewt ▸ h.mono
  have hone : -sigma p s.sign * s.t * a = 1 := by rw [← h.r_cong, hr, Nat.cast_one]
  -- `t` is a unit of `ZMod p`, hence `0 < t < p`
  have ht : (s.t : ZMod p) ≠ 0 := fun h0 => by rw [h0, mul_zero, zero_mul] at hone; exact zero_ne_one hone
  have ht0 : s.t ≠ 0 := fun h => ht (by rw [h, Nat.cast_zero])
  have htp : s.t ≠ p := fun h => ht (by rw [h, ZMod.natCast_self])
  rcases Nat.le_one_iff_eq_zero_or_eq_one.mp h.sign_le with hs | hs
  · -- σ = -1: the output is `t`
    rw [hs, sigma, if_neg Nat.zero_ne_one, neg_neg, one_mul] at hone
    simp only [hs, Nat.sub_zero, Nat.one_mul, Nat.zero_mul, Nat.add_zero]
    exact ⟨Nat.lt_of_le_of_ne htle htp, hone⟩
  · -- σ = 1: the output is `p - t`
    rw [hs, sigma, if_pos rfl, neg_one_mul] at hone
    simp only [hs, Nat.sub_self, Nat.zero_mul, Nat.zero_add, Nat.one_mul]
    exact ⟨Nat.sub_lt hp.pos (Nat.pos_of_ne_zero ht0), by rwa [Nat.cast_sub htle, ZMod.natCast_self, zero_sub]⟩

end IpaVerif.Invert
