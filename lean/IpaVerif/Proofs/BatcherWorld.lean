import IpaVerif.Proofs.BatcherTrace
/-! The asynchronous tail of `validate_record` (C16): futures, watch channels, the validation
closure.  Invariant of `World` along every schedule of calls, polls, releases and drops. -/
namespace IpaVerif.Batcher

inductive WOp where
  | get (r x : Nat)
  | validate (r : Nat)
  | setTotal (t : Total)
  /-- poll future `i` once -/
  | poll (i : Nat)
  /-- the validation closure's own future for batch `b` becomes able to complete -/
  | release (b : Nat)
  /-- drop future `i` -/
  | drop (i : Nat)

def invokedKeys (w : World) : List Nat := w.invoked.map (·.1)
def verdictKeys (w : World) : List Nat := w.verdicts.map (·.1)

def wstep (w : World) : WOp → World
  | .get r x =>
    match w.batcher with
    | some s => { w with batcher := some (getBatchPush s r x).1 }
    | none => w
  | .validate r => (w.validate r).1
  | .setTotal t =>
    match w.batcher with
    | some s => (match setTotal s t with | .ok s' => { w with batcher := some s' } | .error _ => w)
    | none => w
  | .poll i => (w.poll i).1
  | .release b => w.release b
  | .drop i => w.dropFut i

def wghost (w : World) (g : Ghost) : WOp → Ghost
  | .validate r =>
    match w.batcher with
    | some s => ghostStep g (.validate r) (.validated (validateRecord s r).2)
    | none => g
  | _ => g

def wexec : World → Ghost → List WOp → World × Ghost
  | w, g, [] => (w, g)
  | w, g, op :: ops => wexec (wstep w op) (wghost w g op) ops

structure WInv (n : Nat) (w : World) (g : Ghost) : Prop where
  batcher : ∃ s, w.batcher = some s ∧ Inv n s g
  validators : ∀ (i b : Nat) (st : BatchState) (started : Bool),
    w.futs[i]? = some (Fut.validator b st started) →
    b ∈ g.closed ∧ (started = true ↔ b ∈ invokedKeys w) ∧ b ∉ verdictKeys w ∧ st.ctor = b
  unique : ∀ (i i' b : Nat) (st st' : BatchState) (x x' : Bool),
    w.futs[i]? = some (Fut.validator b st x) →
    w.futs[i']? = some (Fut.validator b st' x') → i = i'
  invoked_nodup : (invokedKeys w).Nodup
  invoked_closed : ∀ b, b ∈ invokedKeys w → b ∈ g.closed
  invoked_ctor : ∀ b c p, (b, c, p) ∈ w.invoked → c = b
  verdict_ok : ∀ b v, (b, v) ∈ w.verdicts →
    b ∈ invokedKeys w ∧ b ∈ w.released ∧ v = !w.failing.contains b
  verdict_nodup : (verdictKeys w).Nodup

theorem winv_new (n rpb tps : Nat) (h : 0 < rpb) (t : Total)
    (ht : t = .specified n ∨ t = .indeterminate ∨ t = .unspecified) (failing : List Nat) :
    WInv n (World.new rpb t tps failing) {} where
  batcher := ⟨_, rfl, inv_new n rpb tps h t ht⟩
  validators _ _ _ _ h := nomatch List.getElem?_nil.symm.trans h
  unique _ _ _ _ _ _ _ h := nomatch List.getElem?_nil.symm.trans h
  invoked_nodup := List.nodup_nil
  invoked_closed _ h := (List.not_mem_nil h).elim
  invoked_ctor _ _ _ h := (List.not_mem_nil h).elim
  verdict_ok _ _ h := (List.not_mem_nil h).elim
  verdict_nodup := List.nodup_nil

theorem WInv.unique_of {n w g} (hI : WInv n w g) {futs' : List Fut}
    (h : ∀ (j b : Nat) (st : BatchState) (x : Bool), futs'[j]? = some (Fut.validator b st x) →
      ∃ st0 x0, w.futs[j]? = some (Fut.validator b st0 x0))
    (i i' b : Nat) (st st' : BatchState) (x x' : Bool)
    (h1 : futs'[i]? = some (Fut.validator b st x)) (h2 : futs'[i']? = some (Fut.validator b st' x')) : i = i' :=
  let ⟨_, _, e1⟩ := h i b st x h1
  let ⟨_, _, e2⟩ := h i' b st' x' h2
  hI.unique i i' b _ _ _ _ e1 e2

theorem getElem?_set_gone {l : List Fut} {i j b : Nat} {st : BatchState} {x : Bool}
    (h : (l.set i .gone)[j]? = some (Fut.validator b st x)) : j ≠ i ∧ l[j]? = some (Fut.validator b st x) :=
  (getElem?_set_cases h).resolve_left fun h' => nomatch h'.2

theorem nodup_snoc {l : List Nat} {x : Nat} (h : l.Nodup) (hx : x ∉ l) : (l ++ [x]).Nodup := by
  rw [List.nodup_append]
  refine ⟨h, List.nodup_cons.2 ⟨List.not_mem_nil, List.nodup_nil⟩, fun a ha c hc e => ?_⟩
  cases List.mem_singleton.1 hc
  exact hx (e ▸ ha)

theorem winv_gone {n w g} (hI : WInv n w g) (i : Nat) (cc : List Nat) :
    WInv n { w with futs := w.futs.set i .gone, closedCh := cc } g :=
  ⟨hI.batcher, fun j b st x h => hI.validators j b st x (getElem?_set_gone h).2,
    hI.unique_of fun _ _ st x h => ⟨st, x, (getElem?_set_gone h).2⟩,
    hI.invoked_nodup, hI.invoked_closed, hI.invoked_ctor, hI.verdict_ok, hI.verdict_nodup⟩

theorem winv_push {n w g s' g'} (hI : WInv n w g) (f : Fut) (hf : ∀ b st x, f ≠ .validator b st x)
    (hs : Inv n s' g') (hc : ∀ b, b ∈ g.closed → b ∈ g'.closed) :
    WInv n { w with batcher := some s', futs := w.futs ++ [f] } g' := by
  have old : ∀ {j b st x}, (w.futs ++ [f])[j]? = some (Fut.validator b st x) →
      w.futs[j]? = some (Fut.validator b st x) :=
    fun h => (getElem?_snoc h).resolve_right fun h' => hf _ _ _ h'.2.symm
  exact ⟨⟨_, rfl, hs⟩, fun j b st x h => let ⟨a, r⟩ := hI.validators j b st x (old h); ⟨hc b a, r⟩,
    hI.unique_of fun _ _ st x h => ⟨st, x, old h⟩, hI.invoked_nodup,
    fun b hb => hc b (hI.invoked_closed b hb), hI.invoked_ctor, hI.verdict_ok, hI.verdict_nodup⟩

theorem winv_batcher {n w g s'} (hI : WInv n w g) (hs : Inv n s' g) :
    WInv n { w with batcher := some s' } g :=
  ⟨⟨_, rfl, hs⟩, hI.validators, hI.unique, hI.invoked_nodup, hI.invoked_closed, hI.invoked_ctor,
    hI.verdict_ok, hI.verdict_nodup⟩

theorem winv_validate {n w g} (hI : WInv n w g) (r : Nat) :
    WInv n (wstep w (.validate r)) (wghost w g (.validate r)) := by
  obtain ⟨s, hs, hinv⟩ := hI.batcher
  have hstep := validate_step hinv r
  simp only [wstep, wghost, World.validate, hs]
  generalize validateRecord s r = res at hstep
  obtain ⟨s', o⟩ := res
  cases o with
  | err e => exact winv_push hI _ nofun hstep fun _ h => h
  | panic p => exact winv_batcher hI hstep
  | notReady b => exact winv_push hI _ nofun hstep.inv_next fun _ h => h
  | ready b st =>
    -- the new checking future is the only one for `b`: an earlier one would have closed `b` already
    have hnc := hstep.fresh_batch
    have hni : b ∉ invokedKeys w := fun h => hnc (hI.invoked_closed b h)
    refine ⟨⟨_, rfl, hstep.inv_next⟩, fun j b' st' x h => ?_, fun j j' b' st1 st2 x x' h h' => ?_, hI.invoked_nodup,
      fun b' hb => List.mem_cons_of_mem _ (hI.invoked_closed b' hb), hI.invoked_ctor, hI.verdict_ok,
      hI.verdict_nodup⟩
    · rcases getElem?_snoc h with h1 | ⟨_, h1⟩
      · obtain ⟨a, rest⟩ := hI.validators j b' st' x h1
        exact ⟨List.mem_cons_of_mem _ a, rest⟩
      · obtain ⟨rfl, rfl, rfl⟩ := Fut.validator.inj h1
        refine ⟨List.mem_cons_self, ⟨nofun, fun h => absurd h hni⟩, fun hv => ?_, hstep.ctor_eq⟩
        obtain ⟨⟨_, v⟩, hbv, rfl⟩ := List.mem_map.1 hv
        exact hni (hI.verdict_ok _ v hbv).1
    · rcases getElem?_snoc h with h1 | ⟨e1, h1⟩ <;> rcases getElem?_snoc h' with h2 | ⟨e2, h2⟩
      · exact hI.unique j j' b' st1 st2 x x' h1 h2
      · exact absurd ((Fut.validator.inj h2).1 ▸ (hI.validators j b' st1 x h1).1) hnc
      · exact absurd ((Fut.validator.inj h1).1 ▸ (hI.validators j' b' st2 x' h2).1) hnc
      · exact e1.trans e2.symm

theorem getElem?_of_getD_ne_gone {l : List Fut} {i : Nat} {f : Fut} (h : l.getD i .gone = f) (hf : f ≠ .gone) :
    l[i]? = some f := by
  rw [List.getD_eq_getElem?_getD] at h
  cases hl : l[i]? with
  | none => rw [hl] at h; exact absurd h.symm hf
  | some x => rw [hl] at h; exact congrArg some h

theorem winv_start {n w g} (hI : WInv n w g) {i b : Nat} {st : BatchState}
    (hf : w.futs[i]? = some (.validator b st false)) :
    WInv n { w with invoked := w.invoked ++ [(b, st.ctor, st.payload)],
                    futs := w.futs.set i (.validator b st true) } g := by
  obtain ⟨hbc, hst, hnv, hctor⟩ := hI.validators i b st false hf
  have hni : b ∉ invokedKeys w := fun h => nomatch hst.2 h
  have keys : ∀ b', b' ∈ (w.invoked ++ [(b, st.ctor, st.payload)]).map (·.1) ↔ b' ∈ invokedKeys w ∨ b' = b := by
    intro b'
    rw [List.map_append, List.mem_append, List.map_singleton, List.mem_singleton]; rfl
  refine ⟨hI.batcher, fun j b' st' x h => ?_, hI.unique_of fun j b' st' x h => ?_, ?_,
    fun b' h => ((keys b').1 h).elim (hI.invoked_closed b') (· ▸ hbc), fun b' c p h => ?_,
    fun b' v h => let ⟨a, rest⟩ := hI.verdict_ok b' v h; ⟨(keys b').2 (Or.inl a), rest⟩, hI.verdict_nodup⟩
  · rcases getElem?_set_cases h with ⟨rfl, h1⟩ | ⟨hne, h1⟩
    · obtain ⟨rfl, rfl, rfl⟩ := Fut.validator.inj h1
      exact ⟨hbc, ⟨fun _ => (keys _).2 (Or.inr rfl), fun _ => rfl⟩, hnv, hctor⟩
    · obtain ⟨a, b2, rest⟩ := hI.validators j b' st' x h1
      have hbb : b' ≠ b := fun e => hne (hI.unique j i b st' st x false (e ▸ h1) hf)
      exact ⟨a, b2.trans ⟨fun h => (keys b').2 (Or.inl h), fun h => ((keys b').1 h).resolve_right hbb⟩, rest⟩
  · rcases getElem?_set_cases h with ⟨rfl, h1⟩ | ⟨_, h1⟩
    · exact ⟨st, false, (Fut.validator.inj h1).1 ▸ hf⟩
    · exact ⟨st', x, h1⟩
  · show ((w.invoked ++ [(b, st.ctor, st.payload)]).map (·.1)).Nodup
    rw [List.map_append]
    exact nodup_snoc hI.invoked_nodup hni
  · rcases List.mem_append.1 h with h | h
    · exact hI.invoked_ctor b' c p h
    · obtain ⟨rfl, hcp⟩ := Prod.mk.inj (List.mem_singleton.1 h)
      obtain ⟨rfl, _⟩ := Prod.mk.inj hcp
      exact hctor

theorem winv_finish {n w g} (hI : WInv n w g) {i b : Nat} {st : BatchState}
    (hf : w.futs[i]? = some (.validator b st true)) (hrel : b ∈ w.released) :
    WInv n { w with futs := w.futs.set i .gone,
                    verdicts := w.verdicts ++ [(b, !w.failing.contains b)] } g := by
  obtain ⟨hbc, hst, hnv, hctor⟩ := hI.validators i b st true hf
  refine ⟨hI.batcher, fun j b' st' x h => ?_,
    hI.unique_of fun _ _ st' x h => ⟨st', x, (getElem?_set_gone h).2⟩,
    hI.invoked_nodup, hI.invoked_closed, hI.invoked_ctor, fun b' v h => ?_, ?_⟩
  · obtain ⟨hne, h1⟩ := getElem?_set_gone h
    obtain ⟨a, b2, c, d⟩ := hI.validators j b' st' x h1
    have hbb : b' ≠ b := fun e => hne (hI.unique j i b st' st x true (e ▸ h1) hf)
    refine ⟨a, b2, fun hv => ?_, d⟩
    change b' ∈ (w.verdicts ++ [(b, !w.failing.contains b)]).map (·.1) at hv
    rw [List.map_append, List.mem_append] at hv
    exact hv.elim c fun hv => hbb (List.mem_singleton.1 hv)
  · rcases List.mem_append.1 h with h | h
    · exact hI.verdict_ok b' v h
    · obtain ⟨rfl, rfl⟩ := Prod.mk.inj (List.mem_singleton.1 h)
      exact ⟨hst.1 rfl, hrel, rfl⟩
  · show ((w.verdicts ++ [(b, !w.failing.contains b)]).map (·.1)).Nodup
    rw [List.map_append]
    exact nodup_snoc hI.verdict_nodup hnv

theorem winv_poll {n w g} (hI : WInv n w g) (i : Nat) : WInv n (w.poll i).1 g := by
  unfold World.poll
  cases hf : w.futs.getD i .gone with
  | gone => exact hI
  | failed e => exact winv_gone hI i w.closedCh
  | waiter b =>
    dsimp only
    cases lookupVerdict w.verdicts b with
    | some v => cases v <;> exact winv_gone hI i w.closedCh
    | none =>
      dsimp only
      split
      · exact winv_gone hI i w.closedCh
      · exact hI
  | validator b st started =>
    have hf' := getElem?_of_getD_ne_gone hf nofun
    cases started with
    | true =>
      simp only [if_true]
      split
      · next hr => exact winv_finish hI hf' (List.contains_iff_mem.1 hr)
      · rw [set_eq_self hf']; exact hI
    | false =>
      have h1 := winv_start hI hf'
      simp only [Bool.false_eq_true, if_false]
      split
      · next hr =>
        have := winv_finish h1 (List.getElem?_set_self (lt_of_getElem? hf')) (List.contains_iff_mem.1 hr)
        rwa [List.set_set] at this
      · exact h1

theorem winv_wstep {n w g} (hI : WInv n w g) (op : WOp)
    (ht : ∀ t m, op = .setTotal t → t = .specified m → m = n) :
    WInv n (wstep w op) (wghost w g op) := by
  obtain ⟨s, hs, hinv⟩ := hI.batcher
  cases op with
  | get r x =>
    simp only [wstep, wghost, hs]
    exact winv_batcher hI (inv_getBatchPush hinv r x).1
  | validate r => exact winv_validate hI r
  | setTotal t =>
    simp only [wstep, wghost, hs]
    cases h : setTotal s t with
    | ok s' => exact winv_batcher hI (inv_setTotal hinv t (ht t · rfl) h)
    | error p => exact hI
  | poll i => exact winv_poll hI i
  | release b =>
    exact ⟨hI.batcher, hI.validators, hI.unique, hI.invoked_nodup, hI.invoked_closed, hI.invoked_ctor,
      fun b' v h => let ⟨a, b2, c⟩ := hI.verdict_ok b' v h; ⟨a, List.mem_append_left _ b2, c⟩, hI.verdict_nodup⟩
  | drop i =>
    simp only [wstep, wghost, World.dropFut]
    split <;> exact winv_gone hI i _

def WTotalsAgree (n : Nat) (ops : List WOp) : Prop :=
  ∀ t m, WOp.setTotal t ∈ ops → t = .specified m → m = n

theorem winv_wexec {n} : ∀ (ops : List WOp) (w : World) (g : Ghost), WInv n w g → WTotalsAgree n ops →
    WInv n (wexec w g ops).1 (wexec w g ops).2
  | [], _, _, h, _ => h
  | op :: ops, _, _, h, ht =>
    winv_wexec ops _ _ (winv_wstep h op fun t m e => ht t m (e ▸ List.mem_cons_self))
      fun t m hmem => ht t m (List.mem_cons_of_mem _ hmem)

theorem lookupVerdict_mem {vs : List (Nat × Bool)} {b : Nat} {v : Bool}
    (h : lookupVerdict vs b = some v) : (b, v) ∈ vs := by
  unfold lookupVerdict at h
  cases hf : vs.find? (fun p => p.1 == b) with
  | none => rw [hf] at h; cases h
  | some p =>
    rw [hf] at h
    obtain rfl : p.2 = v := Option.some.inj h
    have h1 := List.find?_some hf
    obtain rfl : p.1 = b := beq_iff_eq.1 h1
    exact List.mem_of_find?_eq_some hf

theorem poll_waiter {w : World} {i b : Nat} (hf : w.futs.getD i .gone = .waiter b) :
    ((w.poll i).2 = .ok → (b, true) ∈ w.verdicts) ∧
    (∀ e, (w.poll i).2 = .err e → e = .parallelFailed ∧ (b, false) ∈ w.verdicts) := by
  unfold World.poll
  rw [hf]
  dsimp only
  cases hl : lookupVerdict w.verdicts b with
  | none => dsimp only; split <;> exact ⟨nofun, nofun⟩
  | some v =>
    have hm := lookupVerdict_mem hl
    cases v with
    | true => exact ⟨fun _ => hm, nofun⟩
    | false => exact ⟨nofun, fun e h => ⟨(PollOut.err.inj h).symm, hm⟩⟩

theorem poll_validator {w : World} {i b : Nat} {st : BatchState} {x : Bool}
    (hf : w.futs.getD i .gone = .validator b st x) :
    ((w.poll i).2 = .ok → b ∈ w.released ∧ b ∉ w.failing) ∧
    (∀ e, (w.poll i).2 = .err e → e = .validationFailed ∧ b ∈ w.released ∧ b ∈ w.failing) := by
  have : (w.poll i).2 = if w.released.contains b then
      (if !w.failing.contains b then .ok else .err .validationFailed) else .pending := by
    unfold World.poll
    rw [hf]
    cases x <;> exact apply_ite Prod.snd ..
  rw [this]
  split
  · next hr =>
    have hr := List.contains_iff_mem.1 hr
    cases hb : w.failing.contains b with
    | true => exact ⟨nofun, fun e h => ⟨(PollOut.err.inj h).symm, hr, List.contains_iff_mem.1 hb⟩⟩
    | false => exact ⟨fun _ => ⟨hr, fun h => by rw [List.contains_iff_mem.2 h] at hb; cases hb⟩, nofun⟩
  · exact ⟨nofun, nofun⟩

theorem WInv.verdict_spec {n w g} (hI : WInv n w g) {b : Nat} {v : Bool} (h : (b, v) ∈ w.verdicts) :
    b ∈ g.closed ∧ b ∈ invokedKeys w ∧ b ∈ w.released ∧ (v = true ↔ b ∉ w.failing) := by
  obtain ⟨a, b2, c⟩ := hI.verdict_ok b v h
  refine ⟨hI.invoked_closed b a, a, b2, ?_⟩
  rw [c, Bool.not_eq_true', ← Bool.not_eq_true, List.contains_iff_mem]

theorem wstep_failing_rpb (w : World) (op : WOp) :
    (wstep w op).failing = w.failing ∧ (wstep w op).batcher.map (·.rpb) = w.batcher.map (·.rpb) := by
  cases op with
  | get r x =>
    simp only [wstep]
    cases hb : w.batcher with
    | none => exact ⟨rfl, congrArg _ hb⟩
    | some s => exact ⟨rfl, congrArg some (getBatchPush_rpb s r x)⟩
  | validate r =>
    simp only [wstep, World.validate]
    cases hb : w.batcher with
    | none => exact ⟨rfl, congrArg _ hb⟩
    | some s =>
      dsimp only
      have := validateRecord_rpb s r
      generalize validateRecord s r = res at this
      obtain ⟨s', o⟩ := res
      cases o <;> exact ⟨rfl, congrArg some this⟩
  | setTotal t =>
    simp only [wstep]
    cases hb : w.batcher with
    | none => exact ⟨rfl, congrArg _ hb⟩
    | some s =>
      dsimp only
      cases h : setTotal s t with
      | ok s' => exact ⟨rfl, congrArg some (setTotal_rpb h)⟩
      | error p => exact ⟨rfl, congrArg _ hb⟩
  | poll i =>
    simp only [wstep, World.poll]
    cases w.futs.getD i .gone with
    | gone => exact ⟨rfl, rfl⟩
    | failed e => exact ⟨rfl, rfl⟩
    | waiter b =>
      dsimp only
      cases lookupVerdict w.verdicts b with
      | some v => cases v <;> exact ⟨rfl, rfl⟩
      | none => dsimp only; split <;> exact ⟨rfl, rfl⟩
    | validator b st started =>
      cases started
      · simp only [Bool.false_eq_true, if_false]
        split <;> exact ⟨rfl, rfl⟩
      · simp only [if_true]
        split <;> exact ⟨rfl, rfl⟩
  | release b => exact ⟨rfl, rfl⟩
  | drop i =>
    simp only [wstep, World.dropFut]
    split <;> exact ⟨rfl, rfl⟩

theorem wexec_failing_rpb : ∀ (ops : List WOp) (w : World) (g : Ghost),
    (wexec w g ops).1.failing = w.failing ∧ (wexec w g ops).1.batcher.map (·.rpb) = w.batcher.map (·.rpb)
  | [], _, _ => ⟨rfl, rfl⟩
  | op :: ops, w, g =>
    let ⟨a, b⟩ := wexec_failing_rpb ops (wstep w op) (wghost w g op)
    let ⟨c, d⟩ := wstep_failing_rpb w op
    ⟨a.trans c, b.trans d⟩

end IpaVerif.Batcher
