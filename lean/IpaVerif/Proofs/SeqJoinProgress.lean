import IpaVerif.Proofs.SeqJoinInv
/-! C15: progress of the sequential join when tasks depend on tasks inside the window, and the
`try_collect` loop on top of the stream. -/
namespace IpaVerif.SeqJoin

theorem window_eq {n s em} (hI : Inv n s em) : ids s.active = List.range' em.length s.active.length := by
  simpa using (range_eq_append (range_eq_append hI.order).1).2.1

theorem mem_window {n s em} (hI : Inv n s em) (x : Nat) (h1 : em.length ≤ x) (h2 : x < em.length + s.active.length) :
    ∃ sl, sl ∈ s.active ∧ sl.id = x := by
  have := List.mem_range'_1.2 ⟨h1, h2⟩
  rw [← window_eq hI] at this
  exact List.mem_map.1 this

def Settled (s : State) : Prop :=
  (∀ sl, sl ∈ s.active → sl.id ∈ s.started) ∧ (s.active.length = s.cap ∨ s.src = [])

def depEnv (n d budget : Nat) : Env := { budget := budget, ready := depReady n d }

theorem refill_noop (fuel : Nat) (s : State) (pulled b : Nat) (hg : s.active.length = s.cap ∨ s.src = []) :
    (refill fuel s pulled b).1.active = s.active := by
  fun_induction refill fuel s pulled b with
  | case5 _ s _ _ hlt _ t rest hs => exact absurd hg (by rw [hs]; exact not_or.2 ⟨Nat.ne_of_lt hlt, nofun⟩)
  | _ => rfl

theorem good_not_pending {n d s em} (hI : Inv n s em) (hg : Settled s) (hne : s.active ≠ [])
    (hd : d + 1 ≤ s.cap) (b : Nat) : (step s (depEnv n d b)).2.out ≠ .pending := by
  intro hp
  obtain ⟨front, rest, hact⟩ := List.exists_cons_of_ne_nil hne
  obtain ⟨st', hsub, hnr⟩ := ((step_spec hI (depEnv n d b) _ rfl).pending hp).head_blocked front rest
    ((refill_noop _ s _ _ hg.2).trans hact)
  have hfid : front.id = em.length := (hI.pop hact (st' := s.started) fun _ h => h).1
  have hl := inv_lengths hI
  -- every task the head waits for is in the window, hence started
  have : depReady n d st' front.id = true := by
    refine List.all_eq_true.2 fun j hj => ?_
    have hjd : j < d := List.mem_range.1 hj
    by_cases hx : front.id + 1 + j ≥ n
    · simp [hx]
    · have hin : front.id + 1 + j < em.length + s.active.length := by
        rcases hg.2 with h | h
        · omega
        · rw [h, List.length_nil] at hl; omega
      obtain ⟨sl, hsl, hid⟩ := mem_window hI (front.id + 1 + j) (by omega) hin
      simp [hid ▸ hsub _ (hg.1 sl hsl)]
  exact absurd (this.symm.trans hnr) nofun

open Classical in
/-- progress measure: two units per task not yet emitted, one more while the window has not
been polled in full. -/
noncomputable def progressMeasure (s : State) : Nat :=
  2 * (s.active.length + s.src.length) + (if Settled s then 0 else 1)

theorem progressMeasure_le (s : State) : progressMeasure s ≤ 2 * (s.active.length + s.src.length) + 1 := by
  unfold progressMeasure; split <;> omega

theorem measure_decreases {n d s em} (hI : Inv n s em) (hc : 0 < s.cap) (hd : d + 1 ≤ s.cap)
    (hnf : (step s (depEnv n d (s.cap + 1))).2.out ≠ .finished) :
    progressMeasure (step s (depEnv n d (s.cap + 1))).1 < progressMeasure s := by
  obtain ⟨hcap, hitem, hpend, _⟩ := step_spec hI (depEnv n d (s.cap + 1)) _ rfl
  have hl := inv_lengths hI
  cases ho : (step s (depEnv n d (s.cap + 1))).2.out with
  | finished => exact absurd ho hnf
  | item i =>
    have hI' := (hitem i ho).2
    have hl' := inv_lengths hI'
    rw [List.length_append, List.length_singleton] at hl'
    have h1 := progressMeasure_le (step s (depEnv n d (s.cap + 1))).1
    refine Nat.lt_of_le_of_lt h1 (Nat.lt_of_lt_of_le ?_ (Nat.le_add_right _ _))
    omega
  | pending =>
    obtain ⟨hI', hstarted, -, hfull, -⟩ := hpend ho
    have hl' := inv_lengths hI'
    have hbad : ¬ Settled s := by
      intro hg
      by_cases hne : s.active = []
      · have hsrc : s.src = [] := hg.2.resolve_left (by rw [hne]; exact Nat.ne_of_lt hc)
        exact absurd ((step_finished_of_drained _ hne hsrc hc).symm.trans ho) nofun
      · exact good_not_pending hI hg hne hd _ ho
    have hgood : Settled (step s (depEnv n d (s.cap + 1))).1 := ⟨hstarted, by rw [hcap]; exact hfull (Nat.le_succ _)⟩
    unfold progressMeasure
    rw [if_pos hgood, if_neg hbad]
    omega

theorem dep_progress {n d : Nat} : ∀ (p : Nat) (s : State) (em : List Nat), Inv n s em → 0 < s.cap → d + 1 ≤ s.cap →
    progressMeasure s < p →
    ∃ o, o ∈ (run s (List.replicate p (depEnv n d (s.cap + 1)))).2 ∧ o.out = .finished := by
  intro p
  induction p with
  | zero => intro s em _ _ _ h; exact absurd h (Nat.not_lt_zero _)
  | succ p ih =>
    intro s em hI hc hd hm
    rw [List.replicate_succ, run_cons]
    by_cases hf : (step s (depEnv n d (s.cap + 1))).2.out = .finished
    · exact ⟨_, List.mem_cons_self, hf⟩
    · have hdec := measure_decreases hI hc hd hf
      have hcap := (step_spec hI (depEnv n d (s.cap + 1)) _ rfl).cap
      have := ih _ _ (step_inv hI _) (by rw [hcap]; exact hc) (by rw [hcap]; exact hd) (by omega)
      rw [hcap] at this
      obtain ⟨o, ho, hfin⟩ := this
      exact ⟨o, List.mem_cons_of_mem _ ho, hfin⟩

theorem tryPoll_spec {n : Nat} (isErr : Nat → Bool) (ready : List Nat → Nat → Bool)
    (fuel : Nat) (s : State) (acc polled : List Nat) (hI : Inv n s acc) (hacc : ∀ j, j ∈ acc → isErr j = false) :
    let r := tryPoll isErr ready fuel s acc polled
    (r.2.2.1 = .pending → Inv n r.1 r.2.1 ∧ ∀ j, j ∈ r.2.1 → isErr j = false) ∧
    (∀ l, r.2.2.1 = .ok l → l = List.range n ∧ ∀ j, j < n → isErr j = false) ∧
    (∀ i, r.2.2.1 = .err i → isErr i = true ∧ i < n ∧ ∀ j, j < i → isErr j = false) := by
  fun_induction tryPoll isErr ready fuel s acc polled with
  | case1 => exact ⟨fun _ => ⟨hI, hacc⟩, nofun, nofun⟩
  | case2 _ s acc _ s1 o hstep ho =>
    exact ⟨fun _ => ⟨((step_spec hI _ _ hstep).pending ho).inv, hacc⟩, nofun, nofun⟩
  | case3 _ s acc _ s1 o hstep ho =>
    have hall := ((step_spec hI _ _ hstep).finished ho).2
    exact ⟨nofun, fun l hl => by cases hl; exact ⟨hall, fun j hj => hacc j (hall ▸ List.mem_range.2 hj)⟩, nofun⟩
  | case4 _ s acc _ s1 o hstep i ho he =>
    obtain ⟨hi, hI1⟩ := (step_spec hI _ _ hstep).item i ho
    have hl := inv_lengths hI1
    rw [List.length_append, List.length_singleton] at hl
    have hpre := (range_eq_append ((List.append_assoc ..).symm.trans hI.order)).1
    refine ⟨nofun, nofun, fun j hj => ?_⟩
    cases hj
    exact ⟨he, by omega, fun j hj => hacc j (hpre ▸ List.mem_range.2 (hi ▸ hj))⟩
  | case5 _ s acc _ s1 o hstep i ho he ih =>
    refine ih ((step_spec hI _ _ hstep).item i ho).2 fun j hj => ?_
    rcases List.mem_append.1 hj with h | h
    · exact hacc j h
    · rw [List.mem_singleton.1 h]; exact Bool.not_eq_true _ ▸ he

/-- drive the `TryCollect` future with one readiness function per poll until it completes; the fuel is one more
than `tryPoll` can use, and `tryRun_spec` holds whatever the fuel. -/
def tryRun (isErr : Nat → Bool) : State → List Nat → List (List Nat → Nat → Bool) → TryOut
  | _, _, [] => .pending
  | s, acc, r :: rs =>
    match tryPoll isErr r (s.src.length + s.active.length + 2) s acc [] with
    | (s', acc', .pending, _) => tryRun isErr s' acc' rs
    | (_, _, out, _) => out

theorem tryRun_spec {n : Nat} (isErr : Nat → Bool) (rs : List (List Nat → Nat → Bool)) (s : State) (acc : List Nat)
    (hI : Inv n s acc) (hacc : ∀ j, j ∈ acc → isErr j = false) :
    (∀ l, tryRun isErr s acc rs = .ok l → l = List.range n ∧ ∀ j, j < n → isErr j = false) ∧
    (∀ i, tryRun isErr s acc rs = .err i → isErr i = true ∧ i < n ∧ ∀ j, j < i → isErr j = false) := by
  fun_induction tryRun isErr s acc rs with
  | case1 => exact ⟨nofun, nofun⟩
  | case2 s acc r rs s' acc' pl hp ih =>
    have a := (tryPoll_spec isErr r (s.src.length + s.active.length + 2) s acc [] hI hacc).1
    rw [hp] at a
    exact ih (a rfl).1 (a rfl).2
  | case3 s acc r rs s' acc' out pl _ hp =>
    have a := (tryPoll_spec isErr r (s.src.length + s.active.length + 2) s acc [] hI hacc).2
    rw [hp] at a
    exact a

end IpaVerif.SeqJoin
