import IpaVerif.Model.PrimeField
/-!
# The deferred-reduction accumulator agrees with the plain dot product

`Accumulator<F, u128, INTERVAL>`: products are added into a `u128` and reduced every `INTERVAL`-th
call. Invariant (`Bounded`): `count < INTERVAL` and `value ≤ (p-1) + count·M`, where `M` bounds the
product of two canonical elements; so the `u128` never overflows as long as
`(p-1) + INTERVAL·M < 2^128`. For `Fp61BitPrime`, `M = (p-1)²` and `INTERVAL = 64` the left side is
`2^128 - 2^69 + 2^61 + 254`. Core Lean only.
-/
namespace IpaVerif.Acc
open IpaVerif.PrimeField

/-- exact integer dot product -/
def sumProd : List (Nat × Nat) → Nat
  | [] => 0
  | ab :: rest => ab.1 * ab.2 + sumProd rest

def Bounded (P : Params) (interval M : Nat) (s : Acc) : Prop :=
  s.count < interval ∧ s.value ≤ (P.p - 1) + s.count * M

section
variable {P : Params} (hred : ∀ x, x < 2 ^ 128 → reduce P x = x % P.p)
include hred

theorem plainDot_foldl_eq (hp64 : P.p ≤ 2 ^ 64) (pairs : List (Nat × Nat)) (h : ∀ ab ∈ pairs, ab.1 < P.p ∧ ab.2 < P.p)
    (acc : Nat) (hacc : acc < P.p) :
    pairs.foldl (fun acc ab => add P acc (mul P ab.1 ab.2)) acc = (acc + sumProd pairs) % P.p := by
  have hpos : 0 < P.p := Nat.zero_lt_of_lt hacc
  induction pairs generalizing acc with
  | nil => exact (Nat.mod_eq_of_lt hacc).symm
  | cons ab rest ih =>
    obtain ⟨ha, hb⟩ := h ab List.mem_cons_self
    have h128 : ab.1 * ab.2 < 2 ^ 64 * 2 ^ 64 :=
      Nat.mul_lt_mul'' (Nat.lt_of_lt_of_le ha hp64) (Nat.lt_of_lt_of_le hb hp64)
    have hm : mul P ab.1 ab.2 = ab.1 * ab.2 % P.p := hred _ h128
    have hmlt : ab.1 * ab.2 % P.p < P.p := Nat.mod_lt _ hpos
    have hadd : add P acc (mul P ab.1 ab.2) = (acc + ab.1 * ab.2 % P.p) % P.p := by
      rw [hm]; exact hred _ (by omega)
    rw [List.foldl_cons, hadd, ih (fun x hx => h x (List.mem_cons_of_mem _ hx)) _ (Nat.mod_lt _ hpos),
      sumProd, Nat.mod_add_mod, Nat.add_right_comm, Nat.add_mod_mod, Nat.add_right_comm, Nat.add_assoc]

variable {interval M : Nat} (hM : ∀ a b, a < P.p → b < P.p → a * b ≤ M)
  (hfit : (P.p - 1) + interval * M < 2 ^ 128)
include hM hfit

theorem accStep_bounded {s : PrimeField.Acc} (hs : Bounded P interval M s) {ab : Nat × Nat} (ha : ab.1 < P.p) (hb : ab.2 < P.p) :
    ∃ s', accStep P interval (some s) ab = some s' ∧ Bounded P interval M s' ∧
      s'.value % P.p = (s.value + ab.1 * ab.2) % P.p := by
  have hv : s.value + ab.1 * ab.2 ≤ (P.p - 1) + (s.count + 1) * M := by
    rw [Nat.succ_mul, ← Nat.add_assoc]; exact Nat.add_le_add hs.2 (hM _ _ ha hb)
  have hlt : s.value + ab.1 * ab.2 < 2 ^ 128 :=
    Nat.lt_of_le_of_lt (Nat.le_trans hv (Nat.add_le_add_left (Nat.mul_le_mul_right _ hs.1) _)) hfit
  have hge : ¬ s.value + ab.1 * ab.2 ≥ 2 ^ 128 := Nat.not_le.mpr hlt
  by_cases hint : s.count + 1 = interval
  · refine ⟨{ value := truncateFrom P (s.value + ab.1 * ab.2), count := 0 }, ?_, ⟨hint ▸ Nat.succ_pos _, ?_⟩, ?_⟩
    · simp only [accStep, hge, hint, if_false, if_true]
    · show reduce P _ ≤ _
      rw [hred _ hlt, Nat.zero_mul]
      exact Nat.le_pred_of_lt (Nat.mod_lt _ (Nat.zero_lt_of_lt ha))
    · show reduce P _ % P.p = _
      rw [hred _ hlt, Nat.mod_mod]
  · refine ⟨{ value := s.value + ab.1 * ab.2, count := s.count + 1 }, ?_, ⟨?_, hv⟩, rfl⟩
    · simp only [accStep, hge, hint, if_false]
    · exact Nat.lt_of_le_of_ne hs.1 hint

theorem acc_from (pairs : List (Nat × Nat)) (h : ∀ ab ∈ pairs, ab.1 < P.p ∧ ab.2 < P.p) {s : PrimeField.Acc}
    (hs : Bounded P interval M s) :
    ∃ s', pairs.foldl (accStep P interval) (some s) = some s' ∧ Bounded P interval M s' ∧
      s'.value % P.p = (s.value + sumProd pairs) % P.p := by
  induction pairs generalizing s with
  | nil => exact ⟨s, rfl, hs, rfl⟩
  | cons ab rest ih =>
    obtain ⟨ha, hb⟩ := h ab List.mem_cons_self
    obtain ⟨s₁, e₁, hs₁, m₁⟩ := accStep_bounded hred hM hfit hs ha hb
    obtain ⟨s', e, hs', m⟩ := ih (fun x hx => h x (List.mem_cons_of_mem _ hx)) hs₁
    refine ⟨s', ?_, hs', ?_⟩
    · rw [List.foldl_cons, e₁, e]
    · rw [m, ← Nat.mod_add_mod, m₁, Nat.mod_add_mod, Nat.add_assoc]; rfl

theorem accDot_eq_plainDot (hp : 0 < P.p) (hp64 : P.p ≤ 2 ^ 64) (hi : 0 < interval) (pairs : List (Nat × Nat))
    (h : ∀ ab ∈ pairs, ab.1 < P.p ∧ ab.2 < P.p) :
    accDot P interval pairs = some (plainDot P pairs) ∧ plainDot P pairs = sumProd pairs % P.p := by
  have hplain : plainDot P pairs = sumProd pairs % P.p := by
    rw [plainDot, plainDot_foldl_eq hred hp64 _ h 0 hp, Nat.zero_add]
  obtain ⟨s', e, hs', m⟩ := acc_from hred hM hfit pairs h (s := { value := 0, count := 0 }) ⟨hi, Nat.zero_le _⟩
  have hlt : s'.value < 2 ^ 128 :=
    Nat.lt_of_le_of_lt (Nat.le_trans hs'.2 (Nat.add_le_add_left (Nat.mul_le_mul_right _ (Nat.le_of_lt hs'.1)) _)) hfit
  refine ⟨?_, hplain⟩
  rw [accDot, e, hplain]
  show some (reduce P _) = _
  rw [hred _ hlt, m, Nat.zero_add]

end
end IpaVerif.Acc
