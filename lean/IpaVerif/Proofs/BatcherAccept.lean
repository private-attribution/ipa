import IpaVerif.Proofs.BatcherStep
/-! C16: a legitimate `validate_record` call is ACCEPTED. Under the history invariant `Inv`, with the total specified, a call
for a record below the total that was not accepted before and whose batch was not yet handed out is answered `Ready::No` or
`Ready::Yes` — none of the panics (`already validated`, `called twice`, `exceeds`, `expected batch`) and neither error.
`exactly_one_validator` of `Props/C16Race.lean` rests on this (it discharges the hypothesis `hacc` of
`exactly_one_validator_partial`). It is the second half of `validate_spec`. -/
namespace IpaVerif.Batcher

theorem validate_accepts {n s g} (hI : Inv n s g) (ht : s.total = .specified n) (r : Nat) (hrn : r < n)
    (hna : r ∉ g.acc) (hnc : r / s.rpb ∉ g.closed) : (validateRecord s r).2.isAccepted = true :=
  (validate_spec hI r).accepted ht hrn hna hnc

end IpaVerif.Batcher
