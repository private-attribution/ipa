/-!
# Carry-less multiplication on `Nat` (polynomials over GF(2) as bit patterns)

`cl a b` is the product of the GF(2)[x] polynomials with coefficient vectors `a`, `b`
(bit `i` = coefficient of `x^i`), defined by the bit recursion
`cl a b = (if b is odd then a else 0) ^^^ (cl a (b / 2)) <<< 1`.
This file proves, in core Lean only, that `(Nat, ^^^, cl)` is a commutative ring without zero
divisors (`cl` is xor-bilinear, commutative, associative, has unit `1`, and degrees add).
-/
namespace IpaVerif.Clmul

def cl (a b : Nat) : Nat :=
  if b = 0 then 0 else (if b % 2 = 1 then a else 0) ^^^ (cl a (b / 2)) <<< 1
termination_by b
decreasing_by omega

theorem cl_zero_right (a : Nat) : cl a 0 = 0 := by rw [cl]; simp

/-- the defining recursion, valid for every `b` -/
theorem cl_step (a b : Nat) : cl a b = (if b % 2 = 1 then a else 0) ^^^ (cl a (b / 2)) <<< 1 := by
  by_cases h : b = 0
  · subst h; simp [cl_zero_right]
  · rw [cl]; simp [h]

theorem half_induction {motive : Nat → Prop} (zero : motive 0) (half : ∀ b, motive (b / 2) → motive b)
    (b : Nat) : motive b := by
  induction b using Nat.strongRecOn with
  | _ b ih =>
    by_cases h : b = 0
    · exact h ▸ zero
    · exact half b (ih _ (by omega))

theorem bit_decomp (b : Nat) : (if b % 2 = 1 then 1 else 0) ^^^ (b / 2) <<< 1 = b := by
  apply Nat.eq_of_testBit_eq
  intro i
  rw [Nat.testBit_xor, Nat.testBit_shiftLeft]
  cases i with
  | zero => split <;> simp [Nat.testBit_zero, *]
  | succ i => split <;> simp [Nat.testBit_succ]

theorem cl_zero_left (b : Nat) : cl 0 b = 0 := by
  induction b using half_induction with
  | zero => exact cl_zero_right 0
  | half b ih => rw [cl_step, ih]; simp

theorem cl_xor_left (a a' b : Nat) : cl (a ^^^ a') b = cl a b ^^^ cl a' b := by
  induction b using half_induction with
  | zero => simp [cl_zero_right]
  | half b ih =>
    rw [cl_step (a ^^^ a'), cl_step a, cl_step a', ih, Nat.shiftLeft_xor_distrib]
    split
    · ac_rfl
    · simp

theorem cl_shl_left (a b n : Nat) : cl (a <<< n) b = (cl a b) <<< n := by
  induction b using half_induction with
  | zero => simp [cl_zero_right]
  | half b ih =>
    rw [cl_step (a <<< n), cl_step a, ih, Nat.shiftLeft_xor_distrib, ← Nat.shiftLeft_add, ← Nat.shiftLeft_add,
      Nat.add_comm n 1]
    split <;> simp

theorem cl_one_left (b : Nat) : cl 1 b = b := by
  induction b using half_induction with
  | zero => exact cl_zero_right 1
  | half b ih => rw [cl_step, ih]; exact bit_decomp b

theorem cl_step_left (a b : Nat) : cl a b = (if a % 2 = 1 then b else 0) ^^^ (cl (a / 2) b) <<< 1 := by
  conv => lhs; rw [← bit_decomp a]
  rw [cl_xor_left, cl_shl_left]
  split <;> simp [cl_one_left, cl_zero_left]

theorem cl_comm (a b : Nat) : cl a b = cl b a := by
  induction b using half_induction generalizing a with
  | zero => rw [cl_zero_right, cl_zero_left]
  | half b ih => rw [cl_step a b, cl_step_left b a, ih]

theorem cl_one_right (a : Nat) : cl a 1 = a := by rw [cl_comm, cl_one_left]

theorem cl_xor_right (a b b' : Nat) : cl a (b ^^^ b') = cl a b ^^^ cl a b' := by
  rw [cl_comm a, cl_xor_left, cl_comm b, cl_comm b']

theorem cl_shl_right (a b n : Nat) : cl a (b <<< n) = (cl a b) <<< n := by
  rw [cl_comm a, cl_shl_left, cl_comm b]

theorem cl_two_pow (a n : Nat) : cl a (2 ^ n) = a <<< n := by
  rw [← Nat.one_shiftLeft, cl_shl_right, cl_one_right]

theorem cl_assoc (a b c : Nat) : cl (cl a b) c = cl a (cl b c) := by
  induction c using half_induction with
  | zero => simp [cl_zero_right]
  | half c ih =>
    rw [cl_step (cl a b) c, ih, cl_step b c, cl_xor_right, cl_shl_right]
    split <;> simp [cl_zero_right]

/-! ### degrees

A polynomial has degree `t` when it is below `2^(t+1)` and has bit `t` set. -/

theorem testBit_top {t z : Nat} (h1 : 2 ^ t ≤ z) (h2 : z < 2 ^ (t + 1)) : z.testBit t = true := by
  rw [Nat.pow_succ] at h2
  rw [← Nat.add_sub_of_le h1, Nat.testBit_two_pow_add_eq, Nat.testBit_lt_two_pow (by omega)]; rfl

theorem half_lt {n b : Nat} (hb : b < 2 ^ (n + 1)) : b / 2 < 2 ^ n :=
  Nat.div_lt_of_lt_mul (Nat.pow_succ' ▸ hb)

theorem sel_lt {c : Prop} [Decidable c] {a t s : Nat} (h : a < 2 ^ t) (hts : t ≤ s) :
    (if c then a else 0) < 2 ^ s := by
  split
  · exact Nat.lt_of_lt_of_le h (Nat.pow_le_pow_right (by decide) hts)
  · exact Nat.two_pow_pos _

theorem cl_lt {m n a b : Nat} (ha : a < 2 ^ m) (hb : b < 2 ^ (n + 1)) : cl a b < 2 ^ (m + n) := by
  induction n generalizing b with
  | zero =>
    rw [cl_step, Nat.div_eq_of_lt hb, cl_zero_right, Nat.zero_shiftLeft, Nat.xor_zero]
    exact sel_lt ha (Nat.le_refl m)
  | succ n ih =>
    rw [cl_step]
    refine Nat.xor_lt_two_pow (sel_lt ha (Nat.le_add_right m _)) ?_
    rw [Nat.shiftLeft_eq, ← Nat.add_assoc, Nat.pow_succ]
    exact Nat.mul_lt_mul_of_pos_right (ih (half_lt hb)) (by decide)

theorem cl_testBit_top {m n a b : Nat} (ha : a < 2 ^ (m + 1)) (hat : a.testBit m = true)
    (hb : b < 2 ^ (n + 1)) (hbt : b.testBit n = true) : (cl a b).testBit (m + n) = true := by
  induction n generalizing b with
  | zero =>
    have h1 : 1 ≤ b := Nat.ge_two_pow_of_testBit hbt
    have h2 : b < 2 := hb
    obtain rfl : b = 1 := by omega
    rwa [cl_one_right]
  | succ n ih =>
    rw [cl_step, ← Nat.add_assoc, Nat.testBit_xor, Nat.testBit_lt_two_pow (sel_lt ha (by omega)),
      Nat.testBit_shiftLeft, Nat.add_sub_cancel, ih (half_lt hb) (by rwa [Nat.testBit_div_two])]
    simp

theorem cl_testBit_log2 {a b : Nat} (ha : a ≠ 0) (hb : b ≠ 0) : (cl a b).testBit (a.log2 + b.log2) = true :=
  cl_testBit_top Nat.lt_log2_self (Nat.testBit_log2 ha) Nat.lt_log2_self (Nat.testBit_log2 hb)

/-- no zero divisors among polynomials -/
theorem cl_eq_zero {a b : Nat} (h : cl a b = 0) : a = 0 ∨ b = 0 := by
  by_cases ha : a = 0
  · exact Or.inl ha
  · by_cases hb : b = 0
    · exact Or.inr hb
    · have := cl_testBit_log2 ha hb
      rw [h, Nat.zero_testBit] at this
      cases this

theorem cl_ge_of_ne_zero {k p q : Nat} (hp : 2 ^ k ≤ p) (hq : q ≠ 0) : 2 ^ k ≤ cl p q := by
  have hp0 : p ≠ 0 := Nat.ne_of_gt (Nat.lt_of_lt_of_le (Nat.two_pow_pos k) hp)
  have hk : k ≤ p.log2 := (Nat.le_log2 hp0).mpr hp
  exact Nat.le_trans (Nat.pow_le_pow_right (by decide) (by omega))
    (Nat.ge_two_pow_of_testBit (cl_testBit_log2 hp0 hq))

end IpaVerif.Clmul
