import IpaVerif.Model.Dp
/-! Facts about the samplers of `Model/Dp.lean` that need nothing but the model. -/
namespace IpaVerif.C12
open IpaVerif.Dp

theorem truncatedSample_le (pInt shift fuel : Nat) (s : List Nat) (v : Nat) (r : List Nat)
    (h : truncatedSample pInt shift fuel s = some (v, r)) : v ≤ 2 * shift := by
  fun_induction truncatedSample pInt shift fuel s with
  | case1 => cases h
  | case2 => cases h
  | case3 fuel s d rest hd hrange =>
    obtain ⟨rfl, _⟩ := Prod.mk.inj (Option.some.inj h)
    exact Int.toNat_le.mpr hrange.2
  | case4 fuel s d rest hd hrange ih => exact ih h

end IpaVerif.C12
