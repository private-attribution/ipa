import IpaVerif.Model.HybridShares
import IpaVerif.Props.C07Lift
import IpaVerif.Props.C07Agg
import IpaVerif.Proofs.C01Shard
/-! `aggregate_reports` on shares: the grouping sees the pseudonyms only, so it commutes with reconstruction. -/
namespace IpaVerif.C01
open IpaVerif.Sharing IpaVerif.Circuits IpaVerif.Hybrid IpaVerif.HybridShares IpaVerif.C07

abbrev SW := World Bool

def GoodRec (W : Widths) (r : SRec SW) : Prop :=
  AllC r.bk ∧ AllC r.v ∧ r.bk.length = W.bkW ∧ r.v.length = W.vW
def GoodRow (W : Widths) (r : SRow SW) : Prop :=
  AllC r.1 ∧ AllC r.2 ∧ r.1.length = W.bkW ∧ r.2.length = W.vW
def GoodHist (W : Widths) (h : List (List SW)) : Prop :=
  h.length = W.buckets ∧ ∀ x ∈ h, AllC x ∧ x.length = W.hvW
def recRec (r : SRec SW) : Rec := ⟨r.key, recBits r.bk, recBits r.v⟩
def recRow (r : SRow SW) : Row := (recBits r.1, recBits r.2)

theorem recBits_eq (l : List SW) : recBits l = val (l.map recB) := rfl

theorem recBits_lt (l : List SW) : recBits l < 2 ^ l.length :=
  List.length_map (f := recB) ▸ val_lt (l.map recB)

/-- share-level `integer_add` of two equally long operands, carry dropped = addition mod `2^n`. -/
theorem add_bits (ρ : Path → Masks Bool) (p : Path) (x y : List SW) (hx : AllC x) (hy : AllC y)
    (hl : y.length = x.length) :
    AllC (integerAdd (shareAlg ρ) p x y).1 ∧ (integerAdd (shareAlg ρ) p x y).1.length = x.length ∧
    recBits (integerAdd (shareAlg ρ) p x y).1 = (recBits x + recBits y) % 2 ^ x.length := by
  obtain ⟨h1, _, h3, _⟩ := add_shares ρ p x y hx hy
  -- the sum bits are below `2^n`, so they are the sum reduced mod `2^n`; the carry is the quotient
  obtain ⟨hlen, hv⟩ := add_value p 0 (x.map recB) (y.map recB) false
  rw [List.length_map] at hlen hv
  rw [Nat.mod_eq_of_lt (hl ▸ recBits_lt y), Bool.toNat_false, Nat.add_zero] at hv
  refine ⟨h1, by rw [← List.length_map (f := recB), h3]; exact hlen, ?_⟩
  have hs := hlen ▸ val_lt (additionCircuit plainAlg p 0 (x.map recB) (y.map recB) false).1
  rw [recBits_eq, h3]
  show val (additionCircuit plainAlg p 0 (x.map recB) (y.map recB) false).1 = _
  rw [recBits_eq, recBits_eq, ← hv, Nat.add_mul_mod_self_left, Nat.mod_eq_of_lt hs]

theorem addPair_bits (ρ : Path → Masks Bool) (p : Path) (idx : Nat) (W : Widths) (pr : SRec SW × SRec SW)
    (h1 : GoodRec W pr.1) (h2 : GoodRec W pr.2) :
    GoodRow W (sAddPair (shareAlg ρ) p idx pr) ∧
    recRow (sAddPair (shareAlg ρ) p idx pr) = addPair W (recRec pr.1, recRec pr.2) := by
  obtain ⟨a1, a2, a3, a4⟩ := h1
  obtain ⟨b1, b2, b3, b4⟩ := h2
  obtain ⟨c1, c2, c3⟩ := add_bits ρ (p ++ [stepAddBK, idx]) pr.1.bk pr.2.bk a1 b1 (b3.trans a3.symm)
  obtain ⟨d1, d2, d3⟩ := add_bits ρ (p ++ [stepAddV, idx]) pr.1.v pr.2.v a2 b2 (b4.trans a4.symm)
  rw [a3] at c2 c3
  rw [a4] at d2 d3
  exact ⟨⟨c1, d1, c2, d2⟩, Prod.ext c3 d3⟩

def entryMap {β γ : Type} (g : β → γ) : EntryG β → EntryG γ
  | .single r => .single (g r)
  | .pair a b => .pair (g a) (g b)
  | .moreThanTwo => .moreThanTwo

theorem upsertG_map {β γ : Type} (g : β → γ) (k : Nat) (r : β) : ∀ m : List (Nat × EntryG β),
    upsertG k (g r) (m.map (fun ke => (ke.1, entryMap g ke.2))) = (upsertG k r m).map (fun ke => (ke.1, entryMap g ke.2))
  | [] => rfl
  | (k', e) :: rest => by
    rw [List.map_cons, upsertG, upsertG, apply_ite (List.map _), apply_ite (List.map _), upsertG_map g k r rest]
    cases e <;> rfl

theorem groupPairsG_map {β γ : Type} (g : β → γ) (l : List (Nat × β)) :
    groupPairsG (l.map (fun kr => (kr.1, g kr.2))) = (groupPairsG l).map (fun pr => (g pr.1, g pr.2)) := by
  have h : l.foldl (fun m kr => upsertG kr.1 (g kr.2) m) []
      = (l.foldl (fun m kr => upsertG kr.1 kr.2 m) []).map fun ke => (ke.1, entryMap g ke.2) :=
    List.foldl_hom (List.map _) (init := []) fun m kr => upsertG_map g kr.1 kr.2 m
  rw [groupPairsG, List.foldl_map, h, List.filterMap_map, groupPairsG, List.map_filterMap]
  exact List.filterMap_congr fun ⟨_, e⟩ _ => by cases e <;> rfl

def toEntry : EntryG Rec → Entry
  | .single r => .single r
  | .pair a b => .pair a b
  | .moreThanTwo => .moreThanTwo

theorem upsertG_toEntry (k : Nat) (r : Rec) : ∀ m : List (Nat × EntryG Rec),
    upsert k r (m.map (fun ke => (ke.1, toEntry ke.2))) = (upsertG k r m).map (fun ke => (ke.1, toEntry ke.2))
  | [] => rfl
  | (k', e) :: rest => by
    rw [List.map_cons, upsert, upsertG, apply_ite (List.map _), apply_ite (List.map _), upsertG_toEntry k r rest]
    cases e <;> rfl

theorem groupPairsG_eq (l : List (Nat × Rec)) : groupPairsG l = groupPairs l := by
  have h : l.foldl (fun m kr => upsert kr.1 kr.2 m) []
      = (l.foldl (fun m kr => upsertG kr.1 kr.2 m) []).map fun ke => (ke.1, toEntry ke.2) :=
    List.foldl_hom (List.map _) (init := []) fun m kr => upsertG_toEntry kr.1 kr.2 m
  rw [groupPairs, h, List.filterMap_map, groupPairsG]
  exact List.filterMap_congr fun ⟨_, e⟩ _ => by cases e <;> rfl

theorem zipWith_idx_spec {β γ δ : Type} (F : Nat → β → γ) (P : γ → Prop) (g : γ → δ) (G : β → δ) :
    ∀ (l : List β) (is : List Nat), l.length ≤ is.length → (∀ i, ∀ x ∈ l, P (F i x) ∧ g (F i x) = G x) →
      (∀ y ∈ List.zipWith F is l, P y) ∧ (List.zipWith F is l).map g = l.map G
  | [], is, _, _ => by rw [List.zipWith_nil_right]; exact ⟨fun _ hy => (nomatch hy), rfl⟩
  | x :: l, [], h, _ => nomatch h
  | x :: l, i :: is, h, hg => by
    obtain ⟨ih1, ih2⟩ := zipWith_idx_spec F P g G l is (Nat.le_of_succ_le_succ h)
      fun i y hy => hg i y (List.mem_cons_of_mem _ hy)
    obtain ⟨hp, he⟩ := hg i x List.mem_cons_self
    rw [List.zipWith_cons_cons, List.map_cons, List.map_cons, he, ih2]
    exact ⟨List.forall_mem_cons.mpr ⟨hp, ih1⟩, rfl⟩

theorem groupPairsG_good (W : Widths) (l : List (Nat × SRec SW)) (h : ∀ kr ∈ l, GoodRec W kr.2) :
    ∀ pr ∈ groupPairsG l, GoodRec W pr.1 ∧ GoodRec W pr.2 := by
  -- group the records together with the proofs that they are good, then forget the proofs
  have e : ((l.attachWith _ h).map fun kr => (kr.1.1, (⟨kr.1.2, kr.2⟩ : {r : SRec SW // GoodRec W r}))).map
      (fun kr => (kr.1, kr.2.1)) = l := by
    rw [List.map_map]
    exact List.attachWith_map_subtype_val h
  rw [← e, groupPairsG_map]
  intro pr hpr
  obtain ⟨q, _, rfl⟩ := List.mem_map.mp hpr
  exact ⟨q.1.2, q.2.2⟩

/-- `aggregate_reports` on shares: the rows it outputs are consistent sharings of the right widths
and reconstruct to the rows of the value-level `aggregateReports`, for all PRSS masks. -/
theorem sAggregateReports_rec (ρ : Path → Masks Bool) (p : Path) (W : Widths) (reports : List (Nat × SRec SW))
    (h : ∀ kr ∈ reports, GoodRec W kr.2) :
    (∀ r ∈ sAggregateReports (shareAlg ρ) p reports, GoodRow W r) ∧
    (sAggregateReports (shareAlg ρ) p reports).map recRow
      = aggregateReports W (reports.map (fun kr => (kr.1, recRec kr.2))) := by
  have hg := groupPairsG_good W reports h
  rw [aggregateReports, ← groupPairsG_eq, groupPairsG_map recRec, List.map_map]
  exact zipWith_idx_spec _ _ _ _ _ _ (by rw [List.length_range]) fun i pr hpr =>
    addPair_bits ρ p i W pr (hg pr hpr).1 (hg pr hpr).2

theorem sReshard_rec (n : Nat) (f : Nat → Nat) (shards : List (List (SRec SW))) (d : Nat) :
    (sReshardByPrf n f shards d).map (fun kr => (kr.1, recRec kr.2))
      = reshardByPrf n f (shards.map (List.map recRec)) d := by
  unfold sReshardByPrf reshardByPrf
  rw [← List.map_flatten, List.filter_map, List.map_map, List.map_map]
  rfl

theorem sReshard_good (W : Widths) (n : Nat) (f : Nat → Nat) (shards : List (List (SRec SW)))
    (h : ∀ s ∈ shards, ∀ r ∈ s, GoodRec W r) (d : Nat) :
    ∀ kr ∈ sReshardByPrf n f shards d, GoodRec W kr.2 := fun kr hkr => by
  obtain ⟨r, hr, rfl⟩ := List.mem_map.mp hkr
  obtain ⟨s, hs, hr⟩ := List.mem_flatten.mp (List.mem_filter.mp hr).1
  exact h s hs r hr

theorem sHead_rec (ρ : Path → Masks Bool) (p : Path) (W : Widths) (f : Nat → Nat)
    (afterShuffle1 : List (List (SRec SW))) (h : ∀ s ∈ afterShuffle1, ∀ r ∈ s, GoodRec W r) :
    (∀ s ∈ sHead (shareAlg ρ) p f afterShuffle1, ∀ r ∈ s, GoodRow W r) ∧
    (sHead (shareAlg ρ) p f afterShuffle1).map (List.map recRow)
      = (List.range afterShuffle1.length).map (fun d =>
          aggregateReports W (reshardByPrf afterShuffle1.length f (afterShuffle1.map (List.map recRec)) d)) := by
  have key := fun d => sAggregateReports_rec ρ (p ++ [d]) W _ (sReshard_good W afterShuffle1.length f afterShuffle1 h d)
  constructor
  · intro s hs
    obtain ⟨d, _, rfl⟩ := List.mem_map.mp hs
    exact (key d).1
  · rw [sHead, List.map_map]
    exact List.map_congr_left fun d _ => by rw [Function.comp, (key d).2, sReshard_rec]

end IpaVerif.C01
