import IpaVerif.Model.Streams
/-! C17: fixed-width chunk processing (`helpers/stream/chunks.rs`). -/
namespace IpaVerif.Streams

/-- number of valid items of a chunk of width `M`. -/
def ctLen (M : Nat) : ChunkType → Nat
  | .full => M
  | .part k => k

theorem ceilDiv_zero {M : Nat} (hM : 0 < M) : (0 + M - 1) / M = 0 := by
  rw [Nat.zero_add]
  exact Nat.div_eq_of_lt (Nat.sub_lt hM Nat.one_pos)

theorem ceilDiv_small {M : Nat} : ∀ {n : Nat}, n ≠ 0 → n ≤ M → (n + M - 1) / M = 1
  | 0, h, _ => absurd rfl h
  | k + 1, _, h => by
    rw [Nat.add_right_comm, Nat.add_sub_cancel, Nat.add_div_right _ (Nat.lt_of_lt_of_le (Nat.succ_pos k) h),
      Nat.div_eq_of_lt h]

theorem ceilDiv_step {M n : Nat} (hM : 0 < M) (h : M ≤ n) : (n + M - 1) / M = (n - M + M - 1) / M + 1 := by
  rw [Nat.sub_add_cancel h, Nat.sub_add_comm (Nat.le_trans hM h), Nat.add_div_right _ hM]

theorem sliceChunksFrom_spec {α} (N : Nat) (hN : 0 < N) (dflt : α) : ∀ (fuel idx : Nat) (l : List α),
    l.length < fuel →
    (sliceChunksFrom N dflt fuel idx l).length = (l.length + N - 1) / N ∧
    (∀ c, c ∈ sliceChunksFrom N dflt fuel idx l → c.2.2.length = N) ∧
    ((sliceChunksFrom N dflt fuel idx l).flatMap (fun c => chunkIter N c.2)) = l ∧
    (sliceChunksFrom N dflt fuel idx l).map (·.2.1) =
      List.replicate (l.length / N) .full ++ (if l.length % N ≠ 0 then [.part (l.length % N)] else []) ∧
    (sliceChunksFrom N dflt fuel idx l).map (·.1) = List.range' idx ((l.length + N - 1) / N)
  | 0, _, _, h => absurd h (Nat.not_lt_zero _)
  | fuel + 1, idx, l, hf => by
    rw [sliceChunksFrom]
    by_cases hge : l.length ≥ N
    · obtain ⟨i1, i2, i3, i4, i5⟩ :=
        sliceChunksFrom_spec N hN dflt fuel (idx + 1) (l.drop N) (List.length_drop ▸
          Nat.lt_of_lt_of_le (Nat.sub_lt (Nat.lt_of_lt_of_le hN hge) hN) (Nat.le_of_lt_succ hf))
      rw [List.length_drop] at i1 i4 i5
      rw [if_pos hge, ceilDiv_step hN hge, Nat.div_eq_sub_div hN hge, Nat.mod_eq_sub_mod hge]
      refine ⟨congrArg (· + 1) i1, ?_, ?_, congrArg (ChunkType.full :: ·) i4, congrArg (idx :: ·) i5⟩
      · intro c hc
        rcases List.mem_cons.1 hc with rfl | h
        · exact List.length_take.trans (Nat.min_eq_left hge)
        · exact i2 c h
      · rw [List.flatMap_cons, i3]
        show (l.take N).take N ++ l.drop N = l
        rw [List.take_take, Nat.min_self, List.take_append_drop]
    · rw [if_neg hge]
      have hlt : l.length < N := Nat.lt_of_not_le hge
      by_cases hz : l.length = 0
      · rw [if_neg (fun h => h hz), hz, ceilDiv_zero hN, Nat.zero_div, Nat.zero_mod, List.length_eq_zero_iff.1 hz]
        exact ⟨rfl, nofun, rfl, rfl, rfl⟩
      · rw [if_pos hz, ceilDiv_small hz (Nat.le_of_lt hlt), Nat.div_eq_of_lt hlt, Nat.mod_eq_of_lt hlt, if_pos hz]
        refine ⟨rfl, fun c hc => ?_, ?_, rfl, rfl⟩
        · rw [List.mem_singleton.1 hc]
          show (l ++ List.replicate (N - l.length) dflt).length = N
          rw [List.length_append, List.length_replicate, Nat.add_sub_cancel' (Nat.le_of_lt hlt)]
        · show (l ++ List.replicate (N - l.length) dflt).take l.length ++ [] = l
          rw [List.take_left' rfl, List.append_nil]

theorem unpackGo_spec {α} (M : Nat) (hM : 0 < M) : ∀ (data : List α) (len : Nat),
    ((unpackGo M data len).map (fun c => ctLen M c.1)).sum = min len (data.length * M) ∧
    (unpackGo M data len).map (·.2) = data.take ((len + M - 1) / M)
  | [], len => ⟨by rw [List.length_nil, Nat.zero_mul, Nat.min_zero]; rfl, List.take_nil.symm⟩
  | a :: rest, len => by
    rw [unpackGo, List.length_cons, Nat.succ_mul]
    by_cases h0 : len = 0
    · rw [if_pos h0, h0, ceilDiv_zero hM]
      exact ⟨(Nat.zero_min _).symm, rfl⟩
    · rw [if_neg h0]
      by_cases hge : len ≥ M
      · obtain ⟨i1, i2⟩ := unpackGo_spec M hM rest (len - M)
        rw [if_pos hge, ceilDiv_step hM hge]
        refine ⟨?_, congrArg (a :: ·) i2⟩
        rw [List.map_cons, List.sum_cons, i1]
        show M + _ = _
        rw [Nat.add_comm M, ← Nat.add_min_add_right, Nat.sub_add_cancel hge]
      · obtain ⟨i1, i2⟩ := unpackGo_spec M hM rest 0
        rw [ceilDiv_zero hM] at i2
        rw [if_neg hge, ceilDiv_small h0 (Nat.le_of_not_le hge)]
        refine ⟨?_, congrArg (a :: ·) i2⟩
        rw [List.map_cons, List.sum_cons, i1, Nat.zero_min]
        exact (Nat.min_eq_left (Nat.le_trans (Nat.le_of_not_le hge) (Nat.le_add_left _ _))).symm

theorem tryFlatten_spec {α} : ∀ (l : List (TItem (List α))),
    tryFlatten l =
      ((l.takeWhile (· matches .ok _)).flatMap (fun | .ok x => x.map TItem.ok | .err => [])) ++
        (if (l.all (· matches .ok _)) then [] else [.err])
  | [] => rfl
  | .err :: _ => rfl
  | .ok x :: rest => by
    rw [tryFlatten, tryFlatten_spec rest]
    exact (List.append_assoc _ _ _).symm

def okPrefix {α} : List (TItem α) → List α
  | [] => []
  | .err :: _ => []
  | .ok x :: r => x :: okPrefix r

def hasErrT {α} : List (TItem α) → Bool
  | [] => false
  | .err :: _ => true
  | .ok _ :: r => hasErrT r

/-- the records a processed chunk stands for (`Chunk::into_iter`). -/
def chunkVals {α} (N : Nat) : TItem (Nat × ChunkType × List α) → List α
  | .ok c => chunkIter N c.2
  | .err => []

theorem streamChunksGo_spec {α} (N : Nat) (hN : 0 < N) (dflt : α) : ∀ (l : List (TItem α)) (buf : List α) (idx : Nat),
    buf.length < N →
    ((streamChunksGo N dflt l buf idx).flatMap (chunkVals N) =
      if hasErrT l then (buf ++ okPrefix l).take ((buf ++ okPrefix l).length / N * N) else buf ++ okPrefix l) ∧
    (hasErrT l = true → (streamChunksGo N dflt l buf idx).getLast? = some .err)
  | [], buf, idx, hb => by
    rw [streamChunksGo]
    refine ⟨?_, Bool.noConfusion⟩
    show _ = buf ++ []
    rw [List.append_nil]
    cases buf with
    | nil => rfl
    | cons a t =>
      rw [List.length_cons, if_pos (Nat.add_one_ne_zero _)]
      show (a :: t ++ List.replicate (N - (t.length + 1)) dflt).take (a :: t).length ++ [] = a :: t
      rw [List.take_left' rfl, List.append_nil]
  | .err :: _, buf, idx, hb => by
    refine ⟨?_, fun _ => rfl⟩
    show [] = (buf ++ []).take ((buf ++ []).length / N * N)
    rw [List.append_nil, Nat.div_eq_of_lt hb, Nat.zero_mul, List.take_zero]
  | .ok x :: rest, buf, idx, hb => by
    rw [streamChunksGo, hasErrT, okPrefix, List.append_cons buf x (okPrefix rest)]
    by_cases hfull : (buf ++ [x]).length = N
    · obtain ⟨i1, i2⟩ := streamChunksGo_spec N hN dflt rest [] (idx + 1) hN
      rw [List.nil_append] at i1
      rw [if_pos hfull, List.flatMap_cons, i1, List.length_append (as := buf ++ [x]), hfull]
      refine ⟨?_, fun h => ?_⟩
      · show (buf ++ [x]).take N ++ _ = _
        rw [List.take_of_length_le (Nat.le_of_eq hfull)]
        cases hasErrT rest with
        | false => rfl
        | true =>
          show _ = ((buf ++ [x]) ++ okPrefix rest).take _
          rw [Nat.add_comm N, Nat.add_div_right _ hN, Nat.add_one_mul, List.take_append, hfull, Nat.add_sub_cancel,
            List.take_of_length_le (Nat.le_trans (Nat.le_of_eq hfull) (Nat.le_add_left _ _))]
          rfl
      · rw [List.getLast?_cons_of_ne_nil, i2 h]
        intro hnil
        rw [hnil] at i2
        cases i2 h
    · rw [if_neg hfull]
      exact streamChunksGo_spec N hN dflt rest (buf ++ [x]) idx (by
        rw [List.length_append] at hfull ⊢; exact Nat.lt_of_le_of_ne hb hfull)

end IpaVerif.Streams
