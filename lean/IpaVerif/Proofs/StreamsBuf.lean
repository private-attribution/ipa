import IpaVerif.Model.Streams
/-! C17, what the three parsers share: `BufDeque` as a byte queue, the upstream as a byte string with
an optional error behind it, polling to the first terminal item. -/
namespace IpaVerif.Streams

theorem ite_of {α : Sort _} {P : α → Prop} {c : Prop} [Decidable c] {a b : α} (ha : P a) (hb : P b) :
    P (if c then a else b) := by
  by_cases h : c
  · rwa [if_pos h]
  · rwa [if_neg h]

def BufDeque.bytes (b : BufDeque) : Bytes := b.chunks.flatten
def BufDeque.WF (b : BufDeque) : Prop := b.size = b.bytes.length

theorem wf_empty : BufDeque.empty.WF := rfl
theorem bytes_empty : BufDeque.empty.bytes = [] := rfl

theorem bytes_push (b : BufDeque) (c : Bytes) : (b.push c).bytes = b.bytes ++ c := by
  simp only [BufDeque.bytes, BufDeque.push, List.flatten_append, List.flatten_cons, List.flatten_nil,
    List.append_nil]

theorem wf_push {b : BufDeque} (h : b.WF) (c : Bytes) : (b.push c).WF := by
  unfold BufDeque.WF
  rw [bytes_push, List.length_append, ← h]
  rfl

theorem contiguous_le {b : BufDeque} (h : b.WF) : b.contiguousLen ≤ b.size := by
  rw [h]
  unfold BufDeque.contiguousLen BufDeque.bytes
  cases b.chunks with
  | nil => exact Nat.le_refl 0
  | cons c cs => rw [List.flatten_cons, List.length_append]; exact Nat.le_add_right _ _

theorem gather_spec : ∀ (cs : List Bytes) (rem : Nat) (acc : Bytes), rem ≤ cs.flatten.length →
    ∃ rest, gather cs rem acc = some (acc ++ cs.flatten.take rem, rest) ∧
      rest.flatten = cs.flatten.drop rem
  | cs, 0, acc, _ => ⟨cs, by rw [gather, List.take_zero, List.append_nil], rfl⟩
  | [], _ + 1, _, h => absurd h (Nat.not_succ_le_zero _)
  | c :: cs, rem + 1, acc, h => by
    rw [gather, List.flatten_cons]
    by_cases hc : c.length > rem + 1
    · rw [if_pos hc, List.take_append_of_le_length (Nat.le_of_lt hc),
        List.drop_append_of_le_length (Nat.le_of_lt hc)]
      exact ⟨_, rfl, rfl⟩
    · rw [List.flatten_cons, List.length_append] at h
      obtain ⟨rest, h1, h2⟩ := gather_spec cs (rem + 1 - c.length) (acc ++ c) (Nat.sub_le_iff_le_add'.2 h)
      have hcl : c.length ≤ rem + 1 := Nat.le_of_not_lt hc
      rw [if_neg hc, h1, List.take_append, List.drop_append, List.take_of_length_le hcl,
        List.drop_of_length_le hcl, List.append_assoc]
      exact ⟨rest, rfl, h2⟩

theorem readBytes_none (b : BufDeque) (len : Nat) (h : len = 0 ∨ b.size < len) :
    b.readBytes len = (.none, b) :=
  if_pos h

theorem take_drop_append_of_le {α} {l : List α} {n : Nat} (h : n ≤ l.length) (t : List α) :
    n ≤ (l ++ t).length ∧ (l ++ t).take n = l.take n ∧ (l ++ t).drop n = l.drop n ++ t :=
  ⟨Nat.le_trans h (List.length_append ▸ Nat.le_add_right _ _), List.take_append_of_le_length h,
    List.drop_append_of_le_length h⟩

theorem readBytes_some {b : BufDeque} (hw : b.WF) (len : Nat) (h0 : 0 < len) (h : len ≤ b.size) :
    ∃ b', b.readBytes len = (.some (b.bytes.take len), b') ∧ b'.WF ∧ b'.bytes = b.bytes.drop len ∧
      b'.size = b.size - len := by
  suffices ∃ b', b.readBytes len = (.some (b.bytes.take len), b') ∧ b'.bytes = b.bytes.drop len ∧
      b'.size = b.size - len by
    obtain ⟨b', h1, h2, h3⟩ := this
    exact ⟨b', h1, by rw [BufDeque.WF, h2, h3, hw, List.length_drop], h2, h3⟩
  unfold BufDeque.WF BufDeque.bytes at hw
  unfold BufDeque.readBytes BufDeque.bytes
  rw [if_neg fun hn => hn.elim (Nat.ne_of_gt h0) (Nat.not_lt.2 h)]
  cases hcs : b.chunks with
  | nil => rw [hcs] at hw; rw [hw] at h; exact absurd (Nat.lt_of_lt_of_le h0 h) (Nat.lt_irrefl 0)
  | cons c cs =>
    rw [hcs, List.flatten_cons, List.length_append] at hw
    rw [List.flatten_cons]
    dsimp only
    by_cases hc : c.length ≥ len
    · -- a first chunk that is used up is dropped from the deque
      rw [if_pos hc, List.take_append_of_le_length hc, List.drop_append_of_le_length hc]
      refine ⟨_, rfl, ?_, rfl⟩
      cases c.drop len <;> rfl
    · have hle : len ≤ (c :: cs).flatten.length := by rw [List.flatten_cons, List.length_append, ← hw]; exact h
      obtain ⟨rest, h1, h2⟩ := gather_spec (c :: cs) len [] hle
      rw [List.flatten_cons] at h1 h2
      rw [if_neg hc, h1, List.nil_append]
      refine ⟨_, rfl, h2, ?_⟩
      show b.size - (List.take len (c ++ cs.flatten)).length = b.size - len
      rw [List.length_take, List.length_append, Nat.min_eq_left (hw ▸ h)]

def upBytes : List Up → Bytes
  | [] => []
  | .err :: _ => []
  | .chunk c :: r => c ++ upBytes r

def upErr : List Up → Bool
  | [] => false
  | .err :: _ => true
  | .chunk _ :: r => upErr r

theorem upBytes_le_total : ∀ up : List Up, (upBytes up).length ≤ totalBytes up
  | [] => Nat.le_refl 0
  | .err :: _ => Nat.zero_le _
  | .chunk c :: r => by
    rw [upBytes, totalBytes, List.length_append]
    exact Nat.add_le_add_left (upBytes_le_total r) _

def unread (b : BufDeque) (up : List Up) : Bytes := b.bytes ++ upBytes up

theorem unread_push (b : BufDeque) (c : Bytes) (up : List Up) : unread (b.push c) up = unread b (.chunk c :: up) := by
  rw [unread, unread, bytes_push, List.append_assoc]; rfl

def flattenItems : List Item → List Item
  | [] => []
  | .batch l :: rest => l.map .record ++ flattenItems rest
  | x :: rest => x :: flattenItems rest

def Item.IsEnd (it : Item) : Prop := it.isTerminal = true ∧ it ≠ .panic

theorem flattenItems_terminal {it : Item} (h : it.isTerminal = true) : flattenItems [it] = [it] := by
  cases it <;> first | rfl | cases h

theorem flattenItems_eq_flatMap : ∀ l : List Item, flattenItems l = l.flatMap fun it => flattenItems [it]
  | [] => rfl
  | it :: l => by
    rw [List.flatMap_cons, ← flattenItems_eq_flatMap l]
    cases it <;> first | rfl | exact (congrArg (· ++ _) (List.append_nil _)).symm

theorem panic_mem_flatten {l : List Item} (h : Item.panic ∈ l) : Item.panic ∈ flattenItems l := by
  rw [flattenItems_eq_flatMap]
  exact List.mem_flatMap.2 ⟨_, h, List.mem_singleton_self _⟩

/-- `recordsRun`, `ldRun` and `bufferedRun` all satisfy `hrun`; `view` is `flattenItems [·]` or the
identity. -/
theorem run_spec {S : Type} {poll : S → Item × S} {run : Nat → S → List Item}
    (hrun : ∀ fuel s, run (fuel + 1) s =
      if (poll s).1.isTerminal then [(poll s).1] else (poll s).1 :: run fuel (poll s).2)
    (view : Item → List Item) (Inv : S → Prop) (mu : S → Nat) (spec : S → List Item)
    (hpoll : ∀ s, Inv s → ∃ it s', poll s = (it, s') ∧ Inv s' ∧
      if it.isTerminal then spec s = view it else mu s' < mu s ∧ spec s = view it ++ spec s') :
    ∀ fuel s, Inv s → mu s < fuel → (run fuel s).flatMap view = spec s
  | 0, _, _, h => absurd h (Nat.not_lt_zero _)
  | fuel + 1, s, hs, hf => by
    obtain ⟨it, s', hp, hs', h⟩ := hpoll s hs
    rw [hrun, hp]
    dsimp only
    by_cases ht : it.isTerminal = true
    · rw [if_pos ht] at h ⊢
      rw [h, List.flatMap_cons, List.flatMap_nil, List.append_nil]
    · rw [if_neg ht] at h ⊢
      rw [h.2, List.flatMap_cons, run_spec hrun view Inv mu spec hpoll fuel s' hs'
        (Nat.lt_of_lt_of_le h.1 (Nat.le_of_lt_succ hf))]

end IpaVerif.Streams
