import IpaVerif.Model.Serde
/-! Byte strings: little-endian integers (`leBytes`, `ofLeBytes`) and the bits of a byte string (`bitOf`). -/
namespace IpaVerif.C09
open IpaVerif.Util IpaVerif.Serde

def Bytes (bs : List Nat) : Prop := ∀ b ∈ bs, b < 256

theorem Bytes_nil : Bytes [] := fun _ h => nomatch h

theorem Bytes_append {a b : List Nat} (ha : Bytes a) (hb : Bytes b) : Bytes (a ++ b) :=
  List.forall_mem_append.2 ⟨ha, hb⟩

theorem Bytes_take {bs : List Nat} (n : Nat) (h : Bytes bs) : Bytes (bs.take n) :=
  fun x hx => h x (List.mem_of_mem_take hx)

theorem Bytes_drop {bs : List Nat} (n : Nat) (h : Bytes bs) : Bytes (bs.drop n) :=
  fun x hx => h x (List.mem_of_mem_drop hx)

theorem getD_of_forall {α : Type} {P : α → Prop} (l : List α) (d : α) (k : Nat) (hl : ∀ x ∈ l, P x) (hd : P d) :
    P (l.getD k d) := by
  rw [List.getD_eq_getElem?_getD]
  cases hk : l[k]? with
  | none => exact hd
  | some x => exact hl x (List.mem_of_getElem? hk)

theorem getD_lt {l : List Nat} (hl : Bytes l) (k : Nat) : l.getD k 0 < 256 :=
  getD_of_forall (P := (· < 256)) l 0 k hl (by decide)

theorem leBytes_length (v n : Nat) : (leBytes v n).length = n := by
  induction n generalizing v with
  | zero => rfl
  | succ n ih => rw [leBytes, List.length_cons, ih]

theorem leBytes_bytes (v n : Nat) : Bytes (leBytes v n) := by
  induction n generalizing v with
  | zero => exact Bytes_nil
  | succ n ih => exact List.forall_mem_cons.2 ⟨Nat.mod_lt _ (by decide), ih _⟩

theorem ofLeBytes_leBytes (v n : Nat) : ofLeBytes (leBytes v n) = v % 256 ^ n := by
  induction n generalizing v with
  | zero => simp [leBytes, ofLeBytes, Nat.mod_one]
  | succ n ih =>
    simp only [leBytes, ofLeBytes, ih]
    rw [Nat.pow_succ, Nat.mul_comm (256 ^ n) 256, Nat.mod_mul]

theorem pow256_eq_two_pow (n : Nat) : 256 ^ n = 2 ^ (8 * n) := by
  rw [show (256 : Nat) = 2 ^ 8 from rfl, ← Nat.pow_mul]

theorem ofLeBytes_lt (bs : List Nat) (h : Bytes bs) : ofLeBytes bs < 256 ^ bs.length := by
  induction bs with
  | nil => exact Nat.one_pos
  | cons b bs ih =>
    have hb : b < 256 := h b (List.mem_cons_self ..)
    have := ih fun x hx => h x (List.mem_cons_of_mem _ hx)
    simp only [ofLeBytes, List.length_cons, Nat.pow_succ]
    omega

theorem leBytes_ofLeBytes (bs : List Nat) (h : Bytes bs) : leBytes (ofLeBytes bs) bs.length = bs := by
  induction bs with
  | nil => rfl
  | cons b bs ih =>
    have hb : b < 256 := h b (List.mem_cons_self ..)
    rw [ofLeBytes, List.length_cons, leBytes, Nat.add_mul_mod_self_left, Nat.mod_eq_of_lt hb,
      Nat.add_mul_div_left _ _ (by decide), Nat.div_eq_of_lt hb, Nat.zero_add,
      ih fun x hx => h x (List.mem_cons_of_mem _ hx)]

theorem getD_map_range {α : Type} (f : Nat → α) (n k : Nat) (d : α) (hk : k < n) :
    ((List.range n).map f).getD k d = f k := by
  rw [List.getD_eq_getElem?_getD, List.getElem?_map, List.getElem?_range hk]
  rfl

theorem getD_fin4 {α : Type} (f : Fin 4 → α) (i : Fin 4) (d : α) : [f 0, f 1, f 2, f 3].getD i.val d = f i := by
  match i with
  | ⟨0, _⟩ => rfl
  | ⟨1, _⟩ => rfl
  | ⟨2, _⟩ => rfl
  | ⟨3, _⟩ => rfl

/-- bit `n` of a little-endian byte string (`Transpose.bitAt m r c` is `bitOf (m.getD r []) c`) -/
def bitOf (t : List Nat) (n : Nat) : Bool := (t.getD (n / 8) 0).testBit (n % 8)

theorem bitOf_mk (t : List Nat) (a b : Nat) (hb : b < 8) : bitOf t (8 * a + b) = (t.getD a 0).testBit b := by
  rw [bitOf, Nat.mul_add_div (by decide), Nat.div_eq_of_lt hb, Nat.add_zero, Nat.mul_add_mod, Nat.mod_eq_of_lt hb]

theorem bitOf_cons_lt (x : Nat) (xs : List Nat) (n : Nat) (h : n < 8) : bitOf (x :: xs) n = x.testBit n := by
  rw [bitOf, Nat.div_eq_of_lt h, Nat.mod_eq_of_lt h, List.getD_cons_zero]

theorem bitOf_cons_add (x : Nat) (xs : List Nat) (n : Nat) : bitOf (x :: xs) (n + 8) = bitOf xs n := by
  rw [bitOf, Nat.add_div_right _ (by decide), Nat.add_mod_right, List.getD_cons_succ, bitOf]

theorem testBit_ofLeBytes (bs : List Nat) (hbs : Bytes bs) (n : Nat) : (ofLeBytes bs).testBit n = bitOf bs n := by
  induction bs generalizing n with
  | nil => simp [ofLeBytes, bitOf]
  | cons x xs ih =>
    have hx : x < 2 ^ 8 := hbs x (List.mem_cons_self ..)
    rw [ofLeBytes, Nat.add_comm, show (256 : Nat) = 2 ^ 8 from rfl, Nat.testBit_two_pow_mul_add _ hx]
    split
    · next h => rw [bitOf_cons_lt _ _ _ h]
    · next h =>
      obtain ⟨m, rfl⟩ := Nat.exists_eq_add_of_le' (Nat.le_of_not_lt h)
      rw [Nat.add_sub_cancel, bitOf_cons_add, ih fun y hy => hbs y (List.mem_cons_of_mem _ hy)]

theorem bitOf_leBytes (v len n : Nat) (hn : n < 8 * len) : bitOf (leBytes v len) n = v.testBit n := by
  rw [← testBit_ofLeBytes _ (leBytes_bytes v len), ofLeBytes_leBytes, pow256_eq_two_pow, Nat.testBit_mod_two_pow,
    decide_eq_true hn, Bool.true_and]

theorem bitOf_take (t : List Nat) (a n : Nat) (hn : n < 8 * a) : bitOf (t.take a) n = bitOf t n := by
  have h : n / 8 < a := by omega
  simp only [bitOf, List.getD_eq_getElem?_getD, List.getElem?_take, h, if_true]

theorem bitOf_drop (t : List Nat) (a n : Nat) : bitOf (t.drop a) n = bitOf t (8 * a + n) := by
  simp only [bitOf, List.getD_eq_getElem?_getD, List.getElem?_drop, Nat.mul_add_div (show 8 > 0 by decide),
    Nat.mul_add_mod]

end IpaVerif.C09
