import IpaVerif.Model.OrderingSender
import IpaVerif.Model.SenderSpec
import IpaVerif.Proofs.CircularBuf
/-! `OrderingSender` at poll level against `Spec` (C14(b)): the sorted waker lists of a shard under
`add`/`wake`, the simulation relation `SR`, and one `sim_*` lemma per kind of poll. -/
namespace IpaVerif.OrderingSender
open IpaVerif.CircularBuf

abbrev Desc (l : List WakerItem) : Prop := l.Pairwise (fun a b => a.i > b.i)
abbrev Asc (l : List WakerItem) : Prop := l.Pairwise (fun a b => a.i < b.i)

theorem addRev_mem (item : WakerItem) (l : List WakerItem) :
    item ∈ addRev item l ∧ (∀ x ∈ l, x.i ≠ item.i → x ∈ addRev item l) ∧
    ∀ y ∈ addRev item l, y = item ∨ y ∈ l := by
  induction l with
  | nil => exact ⟨List.mem_singleton_self _, nofun, fun y hy => .inl (List.mem_singleton.mp hy)⟩
  | cons x rest ih =>
    obtain ⟨ih1, ih2, ih3⟩ := ih
    simp only [addRev]
    by_cases hgt : x.i > item.i
    · rw [if_pos hgt]
      refine ⟨List.mem_cons_of_mem _ ih1, fun y hy hne => ?_, fun y hy => ?_⟩
      · rcases List.mem_cons.mp hy with rfl | hy
        · exact List.mem_cons_self
        · exact List.mem_cons_of_mem _ (ih2 y hy hne)
      · rcases List.mem_cons.mp hy with rfl | hy
        · exact .inr List.mem_cons_self
        · exact (ih3 y hy).imp_right (List.mem_cons_of_mem _)
    rw [if_neg hgt]
    by_cases heq : x.i = item.i
    · rw [if_pos heq]
      refine ⟨List.mem_cons_self, fun y hy hne => ?_, fun y hy => ?_⟩
      · rcases List.mem_cons.mp hy with rfl | hy
        · exact absurd heq hne
        · exact List.mem_cons_of_mem _ hy
      · exact (List.mem_cons.mp hy).imp_right (List.mem_cons_of_mem _)
    · rw [if_neg heq]
      exact ⟨List.mem_cons_self, fun y hy _ => List.mem_cons_of_mem _ hy, fun y hy => List.mem_cons.mp hy⟩

theorem addRev_desc {item : WakerItem} {l : List WakerItem} (h : Desc l) : Desc (addRev item l) := by
  induction l with
  | nil => simp [addRev, Desc]
  | cons x rest ih =>
    have hx := (List.pairwise_cons.mp h)
    simp only [addRev]
    by_cases hgt : x.i > item.i
    · rw [if_pos hgt]
      refine List.pairwise_cons.mpr ⟨?_, ih hx.2⟩
      intro y hy
      rcases (addRev_mem _ _).2.2 y hy with rfl | hy'
      · exact hgt
      · exact hx.1 y hy'
    rw [if_neg hgt]
    by_cases heq : x.i = item.i
    · rw [if_pos heq]
      refine List.pairwise_cons.mpr ⟨?_, hx.2⟩
      intro y hy; have := hx.1 y hy; omega
    · rw [if_neg heq]
      refine List.pairwise_cons.mpr ⟨?_, h⟩
      intro y hy
      rcases List.mem_cons.mp hy with rfl | hy'
      · omega
      · have := hx.1 y hy'; omega

theorem Shard.add_spec {s s' : Shard} {cur i : Nat} {t : Task} (hs : Asc s.wakers)
    (h : s.add cur i t = some s') :
    Asc s'.wakers ∧ ⟨i, t⟩ ∈ s'.wakers ∧ s'.wokenAt = s.wokenAt ∧
    (∀ x ∈ s.wakers, x.i ≠ i → x ∈ s'.wakers) := by
  unfold Shard.add at h
  split at h
  · cases h
  · cases h
    refine ⟨?_, ?_, rfl, ?_⟩
    · show Asc (addRev ⟨i, t⟩ s.wakers.reverse).reverse
      rw [Asc, List.pairwise_reverse]
      apply addRev_desc
      rw [Desc, List.pairwise_reverse]
      exact hs
    · simp only [List.mem_reverse]; exact (addRev_mem _ _).1
    · intro x hx hne
      simp only [List.mem_reverse]
      exact (addRev_mem _ _).2.1 x (List.mem_reverse.mpr hx) hne

theorem Shard.add_isSome_iff {s : Shard} {cur i : Nat} {t : Task} :
    (∃ s', s.add cur i t = some s') ↔ s.wokenAt ≤ cur := by
  unfold Shard.add
  by_cases h : cur < s.wokenAt
  · rw [if_pos h]; exact ⟨nofun, fun h' => by omega⟩
  · rw [if_neg h]; exact ⟨fun _ => by omega, fun _ => ⟨_, rfl⟩⟩

theorem wakeList_rest {i : Nat} {l : List WakerItem} {t : Task} {rest : List WakerItem}
    (h : wakeList i l = some (t, rest)) :
    (∃ pre, l = pre ++ ⟨i, t⟩ :: rest ∧ ∀ x ∈ pre, x.i < i) := by
  induction l with
  | nil => cases h
  | cons x xs ih =>
    simp only [wakeList] at h
    split at h
    · rename_i heq
      cases h; subst heq
      exact ⟨[], rfl, List.forall_mem_nil _⟩
    · split at h
      · obtain ⟨pre, hpre, hlt⟩ := ih h
        refine ⟨x :: pre, by rw [hpre]; rfl, ?_⟩
        intro y hy
        rcases List.mem_cons.mp hy with rfl | hy'
        · omega
        · exact hlt y hy'
      · cases h

theorem wakeList_finds {i : Nat} {l : List WakerItem} {t : Task} (hs : Asc l) (hm : ⟨i, t⟩ ∈ l) :
    ∃ rest, wakeList i l = some (t, rest) := by
  induction l with
  | nil => cases hm
  | cons x xs ih =>
    have hx := List.pairwise_cons.mp hs
    simp only [wakeList]
    rcases List.mem_cons.mp hm with rfl | hm'
    · simp
    · have := hx.1 _ hm'
      simp only [] at this
      rw [if_neg (by omega), if_pos (by omega)]
      exact ih hx.2 hm'

theorem Shard.wake_spec (s : Shard) (i : Nat) (hs : Asc s.wakers) :
    Asc (s.wake i).1.wakers ∧ (s.wake i).1.wokenAt = max s.wokenAt i ∧
    (∀ x ∈ s.wakers, x.i > i → x ∈ (s.wake i).1.wakers) ∧
    (∀ t, ⟨i, t⟩ ∈ s.wakers → t ∈ (s.wake i).2) := by
  unfold Shard.wake
  cases hw : wakeList i s.wakers with
  | none =>
    refine ⟨hs, rfl, fun x hx _ => hx, ?_⟩
    intro t ht
    obtain ⟨rest, hr⟩ := wakeList_finds hs ht
    rw [hw] at hr; cases hr
  | some p =>
    obtain ⟨t, rest⟩ := p
    obtain ⟨pre, hpre, hlt⟩ := wakeList_rest hw
    refine ⟨?_, rfl, ?_, ?_⟩
    · rw [hpre] at hs
      exact (List.pairwise_cons.mp (List.pairwise_append.mp hs).2.1).2
    · intro x hx hgt
      rw [hpre] at hx
      rcases List.mem_append.mp hx with h | h
      · have := hlt x h; omega
      · rcases List.mem_cons.mp h with rfl | h'
        · simp at hgt
        · exact h'
    · intro t' ht'
      obtain ⟨rest', hr⟩ := wakeList_finds hs ht'
      rw [hw] at hr; cases hr; simp


structure ShardsOk (sh : Nat → Shard) (next : Nat) : Prop where
  sorted : ∀ k, Asc (sh k).wakers
  woken_le : ∀ k, (sh k).wokenAt ≤ next

theorem waitingWake_spec (s : State) (j : Nat) (h : ShardsOk s.shards s.next) (hj : j ≤ s.next) :
    ShardsOk (s.waitingWake j).1.shards s.next ∧
    (∀ k x, x ∈ (s.shards k).wakers → x.i > j → x ∈ ((s.waitingWake j).1.shards k).wakers) ∧
    (∀ t, ⟨j, t⟩ ∈ (s.shards (shardIdx j)).wakers → t ∈ (s.waitingWake j).2) := by
  have hw := Shard.wake_spec (s.shards (shardIdx j)) j (h.sorted _)
  unfold State.waitingWake
  refine ⟨⟨?_, ?_⟩, ?_, hw.2.2.2⟩
  · intro k; by_cases hk : k = shardIdx j
    · simp only [hk, if_true]; exact hw.1
    · simp only [hk, if_false]; exact h.sorted k
  · intro k; by_cases hk : k = shardIdx j
    · simp only [hk, if_true]; rw [hw.2.1]; have := h.woken_le (shardIdx j); omega
    · simp only [hk, if_false]; exact h.woken_le k
  · intro k x hx hgt; by_cases hk : k = shardIdx j
    · subst hk; simp only [if_true]; exact hw.2.2.1 x hx hgt
    · simp only [hk, if_false]; exact hx

theorem waitingWake_wokenAt (s : State) (j k : Nat) :
    ((s.waitingWake j).1.shards k).wokenAt =
      if k = shardIdx j then max (s.shards k).wokenAt j else (s.shards k).wokenAt := by
  unfold State.waitingWake
  by_cases hk : k = shardIdx j
  · subst hk
    simp only [if_true]
    unfold Shard.wake
    split <;> rfl
  · simp only [hk, if_false]

theorem waitingWake_wokenAt_le (s : State) (j k : Nat) :
    (s.shards k).wokenAt ≤ ((s.waitingWake j).1.shards k).wokenAt := by
  rw [waitingWake_wokenAt]
  split
  · exact Nat.le_max_left _ _
  · exact Nat.le_refl _

theorem waitingAdd_spec (s : State) (i : Nat) (t : Task) (h : ShardsOk s.shards s.next) :
    ∃ s', s.waitingAdd i t = .ok s' ∧ s'.next = s.next ∧ s'.buf = s.buf ∧
      s'.writeReady = s.writeReady ∧ s'.streamReady = s.streamReady ∧ ShardsOk s'.shards s.next ∧
      ⟨i, t⟩ ∈ (s'.shards (shardIdx i)).wakers ∧
      (∀ k x, x ∈ (s.shards k).wakers → x.i ≠ i → x ∈ (s'.shards k).wakers) := by
  obtain ⟨sh, hsh⟩ := (Shard.add_isSome_iff (i := i) (t := t)).mpr (h.woken_le (shardIdx i))
  have ha := Shard.add_spec (h.sorted _) hsh
  simp only [State.waitingAdd, hsh]
  refine ⟨_, rfl, rfl, rfl, rfl, rfl, ⟨?_, ?_⟩, ?_, ?_⟩
  · intro k; by_cases hk : k = shardIdx i
    · simp only [hk, if_true]; exact ha.1
    · simp only [hk, if_false]; exact h.sorted k
  · intro k; by_cases hk : k = shardIdx i
    · simp only [hk, if_true]; rw [ha.2.2.1]; exact h.woken_le _
    · simp only [hk, if_false]; exact h.woken_le k
  · simp only [if_true]; exact ha.2.1
  · intro k x hx hne; by_cases hk : k = shardIdx i
    · subst hk; simp only [if_true]; exact ha.2.2.2 x hx hne
    · simp only [hk, if_false]; exact hx

structure SR (s : State) (p : Spec) : Prop where
  buf : R ⟨p.cap, p.ws, p.rs⟩ s.buf ⟨p.q, p.closed⟩
  next_eq : s.next = p.next
  wr_eq : s.writeReady = p.fullWait
  sr_eq : s.streamReady = p.readWait
  shards : ShardsOk s.shards s.next
  parked : ∀ i t, (i, t) ∈ p.idxWait → i > p.next → ⟨i, t⟩ ∈ (s.shards (shardIdx i)).wakers

theorem SR.canRead_eq {s : State} {p : Spec} (h : SR s p) : s.buf.canRead = p.canRead := by
  rw [Bool.eq_iff_iff, h.buf.canRead_iff, Spec.canRead, decide_eq_true_iff]

theorem SR.canWrite_eq {s : State} {p : Spec} (h : SR s p) : s.buf.canWrite = p.canWrite := by
  rw [Bool.eq_iff_iff, h.buf.canWrite_iff, Spec.canWrite, decide_eq_true_iff]

theorem SR.closed_eq {s : State} {p : Spec} (h : SR s p) : s.buf.closed = p.closed := h.buf.closed_eq

def Sim (s : State) (p : Spec) (op : Op) : Prop :=
  (∀ e, step s op = .error e → p.step op = none) ∧
  ∀ s' o, step s op = .ok (s', o) →
    ∃ p' req, p.step op = some (p', o.res, req) ∧ (∀ w ∈ req, w ∈ o.woken) ∧ SR s' p'

theorem Sim.of_error {s : State} {p : Spec} {op : Op} {e : String} (e1 : step s op = .error e)
    (e2 : p.step op = none) : Sim s p op :=
  ⟨fun _ _ => e2, fun _ _ he => nomatch e1.symm.trans he⟩

theorem Sim.of_ok {s s' : State} {p p' : Spec} {op : Op} {o : Out} {r : Res} {req : List Task}
    (e1 : step s op = .ok (s', o)) (e2 : p.step op = some (p', r, req)) (hr : o.res = r)
    (hw : ∀ w ∈ req, w ∈ o.woken) (h : SR s' p') : Sim s p op :=
  ⟨fun _ he => (nomatch e1.symm.trans he),
   fun _ _ he => by cases e1.symm.trans he; exact ⟨p', req, hr ▸ e2, hw, h⟩⟩

theorem park_sim {s : State} {p : Spec} (h : SR s p) (i : Nat) (t : Task) :
    ∃ s', s.waitingAdd i t = .ok s' ∧ SR s' (p.park i t) := by
  obtain ⟨s', hs', h1, h2, h3, h4, h5, h6, h7⟩ := waitingAdd_spec s i t h.shards
  refine ⟨s', hs', ⟨by rw [h2]; exact h.buf, by rw [h1]; exact h.next_eq, by rw [h3]; exact h.wr_eq,
    by rw [h4]; exact h.sr_eq, by rw [h1]; exact h5, ?_⟩⟩
  intro j t' hm hgt
  simp only [Spec.park, List.mem_cons, List.mem_filter] at hm
  rcases hm with heq | ⟨hm, hne⟩
  · cases heq; exact h6
  · have hne' : j ≠ i := by simpa using hne
    exact h7 _ _ (h.parked j t' hm hgt) hne'

theorem ShardsOk.mono {sh : Nat → Shard} {a b : Nat} (h : ShardsOk sh a) (hab : a ≤ b) : ShardsOk sh b :=
  ⟨h.sorted, fun k => Nat.le_trans (h.woken_le k) hab⟩

theorem mem_parkedAt {p : Spec} {i : Nat} {w : Task} (h : w ∈ p.parkedAt i) : (i, w) ∈ p.idxWait := by
  simp only [Spec.parkedAt, List.mem_map, List.mem_filter] at h
  obtain ⟨⟨j, w'⟩, ⟨hm, hj⟩, hw⟩ := h
  simp only [beq_iff_eq] at hj
  simp only [] at hw
  subst hj hw
  exact hm


/-- State after an accepted write, before the next writer is woken. -/
def sendS1 (s : State) (b' : Buf) : State :=
  { s with buf := b', streamReady := if b'.canRead then none else s.streamReady, next := s.next + 1 }

theorem step_send_ready {s : State} {t : Task} {i : Nat} {m : List Nat} {b' : Buf}
    (h2 : s.next = i) (hc : s.buf.closed = false) (hw : s.buf.canWrite = true)
    (hwm : s.buf.writeMsg m = .ok b') :
    step s (.pollSend t i m) = .ok (((sendS1 s b').waitingWake (i + 1)).1,
      ⟨.ready, (if b'.canRead then s.streamReady.toList else []) ++ ((sendS1 s b').waitingWake (i + 1)).2⟩) := by
  rw [step, sendS1, if_neg (show ¬ s.next > i by omega), if_pos h2, hc, hw, hwm]
  simp only [Bool.false_eq_true, if_false, Bool.not_true]
  cases b'.canRead <;> rfl

def Spec.afterSend (p : Spec) (i : Nat) (m : List Nat) : Spec :=
  { p with q := p.q ++ m, next := p.next + 1,
           readWait := if Spec.canRead { p with q := p.q ++ m, next := p.next + 1 } then none else p.readWait,
           idxWait := p.idxWait.filter (fun q => q.1 != i + 1) }

def Spec.afterClose (p : Spec) : Spec :=
  { p with closed := true, next := p.next + 1, readWait := none }

def Spec.afterTake (p : Spec) : Spec :=
  { p with q := p.q.drop (min p.rs p.q.length), fullWait := if p.canWrite then p.fullWait else none }

/-- The accepted polls of the specification: one constructor per branch of `Spec.step` that does
not panic. -/
inductive Spec.Step (p : Spec) : Op → Spec → Res → List Task → Prop
  | sendFull (t : Task) (m : List Nat) : p.closed = false → p.canWrite = false →
      Step p (.pollSend t p.next m) { p with fullWait := some t } .pending []
  | send (t : Task) (m : List Nat) : p.closed = false → p.canWrite = true → m.length = p.ws →
      Step p (.pollSend t p.next m) (p.afterSend p.next m) .ready
        (p.parkedAt (p.next + 1) ++
          if Spec.canRead { p with q := p.q ++ m, next := p.next + 1 } then p.readWait.toList else [])
  | sendPark (t : Task) {i : Nat} (m : List Nat) : p.next < i →
      Step p (.pollSend t i m) (p.park i t) .pending []
  | close (t : Task) : p.closed = false →
      Step p (.pollClose t p.next) p.afterClose .ready p.readWait.toList
  | closePark (t : Task) {i : Nat} : p.next < i → Step p (.pollClose t i) (p.park i t) .pending []
  | take (t : Task) : p.canRead = true →
      Step p (.pollTake t) p.afterTake (.chunk (p.q.take (min p.rs p.q.length)))
        (if p.canWrite then [] else p.fullWait.toList)
  | takeWait (t : Task) : p.canRead = false →
      Step p (.pollTake t) { p with readWait := some t } (if p.closed then .finished else .pending) []

theorem Spec.step_some {p p' : Spec} {op : Op} {r : Res} {w : List Task}
    (h : p.step op = some (p', r, w)) : Spec.Step p op p' r w := by
  cases op with
  | pollSend t i m =>
    rw [Spec.step] at h
    by_cases h1 : i < p.next
    · rw [if_pos h1] at h; cases h
    rw [if_neg h1] at h
    by_cases h2 : i = p.next
    · subst h2
      rw [if_pos rfl] at h
      by_cases hc : p.closed = true
      · rw [if_pos hc] at h; cases h
      rw [if_neg hc] at h
      by_cases hw : (!p.canWrite) = true
      · rw [if_pos hw] at h; cases h
        exact .sendFull t m (Bool.eq_false_iff.mpr hc) (by simpa using hw)
      rw [if_neg hw] at h
      by_cases hm : m.length ≠ p.ws
      · rw [if_pos hm] at h; cases h
      rw [if_neg hm] at h; cases h
      exact .send t m (Bool.eq_false_iff.mpr hc) (by simpa using hw) (Decidable.not_not.mp hm)
    · rw [if_neg h2] at h; cases h; exact .sendPark t m (by omega)
  | pollClose t i =>
    rw [Spec.step] at h
    by_cases h1 : i < p.next
    · rw [if_pos h1] at h; cases h
    rw [if_neg h1] at h
    by_cases h2 : i = p.next
    · subst h2
      rw [if_pos rfl] at h
      by_cases hc : p.closed = true
      · rw [if_pos hc] at h; cases h
      · rw [if_neg hc] at h; cases h; exact .close t (Bool.eq_false_iff.mpr hc)
    · rw [if_neg h2] at h; cases h; exact .closePark t (by omega)
  | pollTake t =>
    rw [Spec.step] at h
    by_cases hc : p.canRead = true
    · rw [if_pos hc] at h; cases h; exact .take t hc
    · rw [if_neg hc] at h; cases h; exact .takeWait t (Bool.eq_false_iff.mpr hc)

theorem Spec.Step.step_eq {p p' : Spec} {op : Op} {r : Res} {w : List Task}
    (h : Spec.Step p op p' r w) : p.step op = some (p', r, w) := by
  cases h with
  | sendFull t m hc hw => simp [Spec.step, hc, hw]
  | send t m hc hw hl => simp [Spec.step, hc, hw, hl, Spec.afterSend]
  | sendPark t m hlt => rw [Spec.step, if_neg (by omega), if_neg (by omega)]
  | close t hc => simp [Spec.step, hc, Spec.afterClose]
  | closePark t hlt => rw [Spec.step, if_neg (by omega), if_neg (by omega)]
  | take t hc => simp [Spec.step, hc, Spec.afterTake]
  | takeWait t hc => simp [Spec.step, hc]

theorem Spec.step_cfg {p p' : Spec} {op : Op} {r : Res} {w : List Task}
    (h : p.step op = some (p', r, w)) : p'.cap = p.cap ∧ p'.ws = p.ws ∧ p'.rs = p.rs := by
  cases Spec.step_some h <;> exact ⟨rfl, rfl, rfl⟩

theorem sim_not_turn {s : State} {p : Spec} (h : SR s p) (t : Task) {i : Nat} (h2 : s.next ≠ i)
    {op : Op} (hop : (∃ m, op = .pollSend t i m) ∨ op = .pollClose t i) : Sim s p op := by
  have hn := h.next_eq
  by_cases h1 : s.next > i
  · -- the index has been used: both panic
    rcases hop with ⟨m, rfl⟩ | rfl <;>
    · refine .of_error (e := "attempt to write/close at index") ?_ ?_
      · rw [step, if_pos h1]
      · rw [Spec.step, if_pos (show i < p.next by omega)]
  · -- a future index: both park the task
    obtain ⟨s', hs', hsr⟩ := park_sim h i t
    have hlt : p.next < i := by omega
    rcases hop with ⟨m, rfl⟩ | rfl
    · exact .of_ok (by rw [step, if_neg h1, if_neg h2, hs'])
        (Spec.Step.sendPark t m hlt).step_eq rfl nofun hsr
    · exact .of_ok (by rw [step, if_neg h1, if_neg h2, hs'])
        (Spec.Step.closePark t hlt).step_eq rfl nofun hsr

theorem sim_send {s : State} {p : Spec} (h : SR s p) (t : Task) (i : Nat) (m : List Nat) :
    Sim s p (.pollSend t i m) := by
  have hn := h.next_eq
  have hcl := h.closed_eq
  have hcw := h.canWrite_eq
  by_cases h2 : s.next = i
  case neg => exact sim_not_turn h t h2 (.inl ⟨m, rfl⟩)
  obtain rfl : i = p.next := by omega
  have h1 : ¬ s.next > p.next := by omega
  cases hc : p.closed
  · cases hw : p.canWrite
    · -- buffer full: park on write_ready
      have e1 : step s (.pollSend t p.next m) = .ok ({ s with writeReady := some t }, ⟨.pending, []⟩) := by
        rw [step, if_neg h1, if_pos h2, hcl, hc, hcw, hw]; rfl
      exact .of_ok e1 (Spec.Step.sendFull t m hc hw).step_eq rfl nofun ⟨h.buf, hn, rfl, h.sr_eq, h.shards, h.parked⟩
    · have hiff := h.buf.writeMsg_ok_iff m
      have hopen : p.closed = false ∧ p.ws ≤ p.cap - p.q.length := by
        simpa [Spec.canWrite] using hw
      cases hwm : s.buf.writeMsg m with
      | error e =>
        have hne : m.length ≠ p.ws := by
          intro heq
          obtain ⟨b', hb'⟩ := hiff.mpr ⟨hopen.1, hopen.2, heq⟩
          rw [hwm] at hb'; cases hb'
        have e1 : step s (.pollSend t p.next m) = .error e := by
          rw [step, if_neg h1, if_pos h2, hcl, hc, hcw, hw, hwm]; rfl
        have e2 : p.step (.pollSend t p.next m) = none := by
          rw [Spec.step, if_neg (Nat.lt_irrefl _), if_pos rfl, hc, hw]
          simp [hne]
        exact .of_error e1 e2
      | ok b' =>
        have hlen : m.length = p.ws := (hiff.mp ⟨b', hwm⟩).2.2
        have hR : R ⟨p.cap, p.ws, p.rs⟩ b' ⟨p.q ++ m, p.closed⟩ := h.buf.write hwm
        have hcr' : b'.canRead = Spec.canRead { p with q := p.q ++ m, next := p.next + 1 } := by
          rw [Bool.eq_iff_iff, hR.canRead_iff, Spec.canRead, decide_eq_true_iff]
        have hsh1 : ShardsOk (sendS1 s b').shards (sendS1 s b').next :=
          h.shards.mono (Nat.le_succ _)
        obtain ⟨w5, w6, w7⟩ :=
          waitingWake_spec (sendS1 s b') (p.next + 1) hsh1 (by simp [sendS1]; omega)
        refine .of_ok (step_send_ready h2 (by rw [hcl, hc]) (by rw [hcw, hw]) hwm)
          (Spec.Step.send t m hc hw hlen).step_eq rfl ?_ ⟨?_, ?_, ?_, ?_, ?_, ?_⟩
        · intro w hw'
          simp only [List.mem_append] at hw' ⊢
          rcases hw' with hw' | hw'
          · right
            exact w7 _ (h.parked _ _ (mem_parkedAt hw') (by omega))
          · left
            rw [hcr']
            split at hw'
            · rename_i hcr; rw [if_pos hcr, h.sr_eq]; exact hw'
            · cases hw'
        · exact hR
        · show s.next + 1 = p.next + 1; rw [hn]
        · exact h.wr_eq
        · show (if b'.canRead then none else s.streamReady) = _; rw [hcr', h.sr_eq]; rfl
        · exact w5
        · intro j t' hm hgt
          simp only [Spec.afterSend, List.mem_filter] at hm hgt
          exact w6 _ _ (h.parked j t' hm.1 (by omega)) (by simp only []; omega)
  · -- closed
    have e1 : step s (.pollSend t p.next m) = .error "writing on a closed stream" := by
      rw [step, if_neg h1, if_pos h2, hcl, hc]; rfl
    have e2 : p.step (.pollSend t p.next m) = none := by
      rw [Spec.step, if_neg (Nat.lt_irrefl _), if_pos rfl, hc]; rfl
    exact .of_error e1 e2

def closeS1 (s : State) : State :=
  { s with buf := { s.buf with closed := true }, streamReady := none, next := s.next + 1 }

theorem sim_close {s : State} {p : Spec} (h : SR s p) (t : Task) (i : Nat) :
    Sim s p (.pollClose t i) := by
  have hn := h.next_eq
  have hcl := h.closed_eq
  by_cases h2 : s.next = i
  case neg => exact sim_not_turn h t h2 (.inr rfl)
  obtain rfl : i = p.next := by omega
  have h1 : ¬ s.next > p.next := by omega
  cases hc : p.closed
  · have e1 : step s (.pollClose t p.next) = .ok (closeS1 s, ⟨.ready, s.streamReady.toList⟩) := by
      rw [step, if_neg h1, if_pos h2, Buf.close, hcl, hc]; rfl
    refine .of_ok e1 (Spec.Step.close t hc).step_eq rfl ?_ ⟨?_, ?_, h.wr_eq, rfl, h.shards.mono (Nat.le_succ _), ?_⟩
    · intro w hw; rw [h.sr_eq]; exact hw
    · have := h.buf; rw [hc] at this; exact this.close
    · simp only [closeS1, Spec.afterClose]; omega
    · intro j t' hm hgt
      exact h.parked j t' hm (by simp only [Spec.afterClose] at hgt; omega)
  · have e1 : step s (.pollClose t p.next) = .error "Already closed" := by
      rw [step, if_neg h1, if_pos h2, Buf.close, hcl, hc]; rfl
    have e2 : p.step (.pollClose t p.next) = none := by
      rw [Spec.step, if_neg (Nat.lt_irrefl _), if_pos rfl, hc]; rfl
    exact .of_error e1 e2

/-- State after a successful read, before `waiting.wake(next)`. -/
def takeS1 (s : State) : State :=
  { s with buf := s.buf.take.1, writeReady := if s.buf.canWrite then s.writeReady else none }

theorem step_take_ready {s : State} {t : Task} (hc : s.buf.canRead = true) :
    step s (.pollTake t) = .ok (((takeS1 s).waitingWake s.next).1,
      ⟨.chunk s.buf.take.2, (if s.buf.canWrite then [] else s.writeReady.toList) ++ ((takeS1 s).waitingWake s.next).2⟩) := by
  simp only [step, takeS1, hc, if_true]
  cases s.buf.canWrite <;> rfl

theorem sim_take {s : State} {p : Spec} (h : SR s p) (t : Task) : Sim s p (.pollTake t) := by
  have hn := h.next_eq
  have hcl := h.closed_eq
  have hcw := h.canWrite_eq
  have hcr := h.canRead_eq
  cases hc : p.canRead
  · have e1 : step s (.pollTake t) = .ok ({ s with streamReady := some t },
        ⟨if p.closed then .finished else .pending, []⟩) := by
      rw [step, hcr, hc, hcl]
      cases p.closed <;> rfl
    exact .of_ok e1 (Spec.Step.takeWait t hc).step_eq rfl nofun ⟨h.buf, hn, h.wr_eq, rfl, h.shards, h.parked⟩
  · have hcr' : s.buf.canRead = true := by rw [hcr, hc]
    obtain ⟨a1, a2⟩ := h.buf.take hcr'
    have hsh1 : ShardsOk (takeS1 s).shards (takeS1 s).next := h.shards
    obtain ⟨w5, w6, w7⟩ := waitingWake_spec (takeS1 s) s.next hsh1 (Nat.le_refl _)
    refine .of_ok (step_take_ready hcr') (Spec.Step.take t hc).step_eq (by rw [a1]) ?_ ⟨?_, ?_, ?_, ?_, ?_, ?_⟩
    · intro w hw
      simp only [List.mem_append]
      left
      rw [hcw, h.wr_eq]; exact hw
    · exact a2
    · exact hn
    · show (if s.buf.canWrite then s.writeReady else none) = _; rw [hcw, h.wr_eq]; rfl
    · exact h.sr_eq
    · exact w5
    · intro j t' hm hgt
      have hgt' : j > p.next := hgt
      exact w6 _ _ (h.parked j t' hm hgt') (by show j > s.next; omega)

theorem sim_step {s : State} {p : Spec} (h : SR s p) (op : Op) : Sim s p op := by
  cases op with
  | pollSend t i m => exact sim_send h t i m
  | pollClose t i => exact sim_close h t i
  | pollTake t => exact sim_take h t

theorem SR_init {cap ws rs : Nat} {s : State} (h : State.new cap ws rs = .ok s) :
    SR s { cap, ws, rs } := by
  unfold State.new at h
  cases hb : Buf.new cap ws rs with
  | error e => rw [hb] at h; cases h
  | ok b =>
    rw [hb] at h; cases h
    exact ⟨R.new hb, rfl, rfl, rfl,
      ⟨fun _ => List.Pairwise.nil, fun _ => Nat.le_refl _⟩, fun _ _ hm => by cases hm⟩

theorem SR.exec (ops : List Op) : ∀ {s1 s : State} {p : Spec}, SR s1 p → exec s1 ops = .ok s →
    ∃ p', SR s p' ∧ p'.cap = p.cap ∧ p'.ws = p.ws ∧ p'.rs = p.rs := by
  induction ops with
  | nil => intro s1 s p h1 he; cases he; exact ⟨p, h1, rfl, rfl, rfl⟩
  | cons op rest ih =>
    intro s1 s p h1 he
    simp only [OrderingSender.exec] at he
    cases e1 : step s1 op with
    | error e => rw [e1] at he; cases he
    | ok x =>
      obtain ⟨s', o⟩ := x
      rw [e1] at he
      obtain ⟨p1, req, e2, _, hsr⟩ := (sim_step h1 op).2 _ _ e1
      obtain ⟨p', h', a, b, c⟩ := ih hsr he
      obtain ⟨c1, c2, c3⟩ := Spec.step_cfg e2
      exact ⟨p', h', by rw [a, c1], by rw [b, c2], by rw [c, c3]⟩

end IpaVerif.OrderingSender
