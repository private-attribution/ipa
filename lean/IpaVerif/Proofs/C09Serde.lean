import IpaVerif.Proofs.C09Bytes
/-! The C09 laws of a wire format (`Lawful`) and their proofs for every leaf encoding and for the
`AdditiveShare` / `StdArray` combinators (the concatenation of lawful encodings is lawful). -/
namespace IpaVerif.C09
open IpaVerif.Util IpaVerif.Serde

/-- The C09 laws of one wire format. -/
structure Lawful {α : Type} (C : Codec α) : Prop where
  /-- the encoding has exactly the advertised length and consists of bytes -/
  encode_length : ∀ v, C.canon v → (C.enc v).length = C.size ∧ Bytes (C.enc v)
  /-- decoding the encoding of a value returns that value -/
  decode_encode : ∀ v, C.canon v → C.dec (C.enc v) = .ok v
  /-- a byte string is accepted only if it is the canonical encoding of a canonical value -/
  decode_canonical : ∀ bs v, Bytes bs → C.dec bs = .ok v → C.canon v ∧ C.enc v = bs
  /-- never panics on a buffer of the advertised length -/
  decode_total : ∀ bs, bs.length = C.size → C.dec bs ≠ .panic

/-- The shape of the prime-field and the bit-array encodings: a little-endian integer, then a validity check. -/
theorem lawful_le {C : Codec Nat} (n : Nat) (valid : Nat → Prop) [DecidablePred valid]
    (hs : C.size = n) (he : ∀ v, C.enc v = leBytes v n)
    (hd : ∀ bs, C.dec bs =
      if bs.length ≠ n then .panic else if valid (ofLeBytes bs) then .ok (ofLeBytes bs) else .err)
    (hc : ∀ v, C.canon v ↔ v < 256 ^ n ∧ valid v) : Lawful C where
  encode_length v _ := by rw [he, hs]; exact ⟨leBytes_length _ _, leBytes_bytes _ _⟩
  decode_encode v hv := by
    obtain ⟨h1, h2⟩ := (hc v).1 hv
    rw [hd, he, leBytes_length, if_neg (fun h => h rfl), ofLeBytes_leBytes, Nat.mod_eq_of_lt h1, if_pos h2]
  decode_canonical bs v hb h := by
    rw [hd] at h
    split at h
    · cases h
    · next hl =>
      have hl : bs.length = n := Decidable.of_not_not hl
      split at h
      · next hv =>
        cases h
        exact ⟨(hc _).2 ⟨hl ▸ ofLeBytes_lt bs hb, hv⟩, by rw [he, ← hl]; exact leBytes_ofLeBytes bs hb⟩
      · cases h
  decode_total bs hl := by
    rw [hd, if_neg (fun h => h (hl.trans hs))]
    split <;> nofun

theorem lawful_prime (P : PrimeField.Params) (hp : P.p ≤ 256 ^ (P.storeBits / 8)) : Lawful (primeCodec P) :=
  lawful_le (P.storeBits / 8) (· < P.p) rfl (fun _ => rfl) (fun _ => rfl)
    fun _ => ⟨fun h => ⟨Nat.lt_of_lt_of_le h hp, h⟩, fun h => h.2⟩

theorem boolCodec_dec_ok {bs : List Nat} {v : Bool} (h : boolCodec.dec bs = .ok v) : ∃ x, bs = [x] := by
  match bs with
  | [] => cases h
  | [x] => exact ⟨x, rfl⟩
  | _ :: _ :: _ => cases h

theorem lawful_bool : Lawful boolCodec where
  encode_length v _ := by cases v <;> exact ⟨rfl, fun b hb => by cases List.mem_singleton.1 hb; decide⟩
  decode_encode v _ := by cases v <;> rfl
  decode_canonical bs v hb h := by
    obtain ⟨x, rfl⟩ := boolCodec_dec_ok h
    have hx : ¬ x > 1 := fun hx => by simp only [boolCodec, if_pos hx] at h; cases h
    simp only [boolCodec, if_neg hx, Outcome.ok.injEq] at h
    subst h
    have : x = 0 ∨ x = 1 := by omega
    rcases this with rfl | rfl <;> exact ⟨trivial, rfl⟩
  decode_total bs hl := by
    match bs, hl with
    | [x], _ => simp only [boolCodec]; split <;> nofun

theorem paddingClear_iff (bits v : Nat) : paddingClear bits v = true ↔ v < 2 ^ bits := by
  simp [paddingClear, Nat.shiftRight_eq_div_pow, Nat.div_eq_zero_iff]

/-- Well-formed instance: storage is whole bytes holding `bits`; the `infallible` arm is only used
when there is no padding (the macro's `const_assert_eq!($bits % 8, 0)`). -/
def _root_.IpaVerif.Serde.BitTy.WF (T : BitTy) : Prop := T.bits ≤ 8 * T.bytes ∧ (T.fallible = false → T.bits = 8 * T.bytes)

instance : DecidablePred BitTy.WF := fun T => by unfold BitTy.WF; exact inferInstance

theorem lawful_bits (T : BitTy) (hT : T.WF) : Lawful (bitCodec T) :=
  lawful_le T.bytes (fun v => T.fallible = true → paddingClear T.bits v = true) rfl (fun _ => rfl)
    (fun bs => by cases hf : T.fallible <;> simp [bitCodec, hf])
    fun v => by
      show v < 2 ^ T.bits ↔ _
      rw [pow256_eq_two_pow]
      constructor
      · exact fun h => ⟨Nat.lt_of_lt_of_le h (Nat.pow_le_pow_right (by decide) hT.1), fun _ => (paddingClear_iff _ _).2 h⟩
      · intro ⟨h1, h2⟩
        cases hf : T.fallible
        · rw [hT.2 hf]; exact h1
        · exact (paddingClear_iff _ _).1 (h2 hf)

/-- Rust's `?` on two consecutive decodes: the first failure wins, two successes are combined by `g`. -/
def seq2 {α β γ : Type} (g : α → β → γ) (x : Outcome α) (y : Outcome β) : Outcome γ :=
  match x with
  | .ok a =>
    match y with
    | .ok b => .ok (g a b)
    | .err => .err
    | .panic => .panic
  | .err => .err
  | .panic => .panic

theorem seq2_eq_ok {α β γ : Type} {g : α → β → γ} {x : Outcome α} {y : Outcome β} {c : γ}
    (h : seq2 g x y = .ok c) : ∃ a b, x = .ok a ∧ y = .ok b ∧ g a b = c := by
  cases x <;> cases y <;> cases h
  exact ⟨_, _, rfl, rfl, rfl⟩

theorem seq2_ne_panic {α β γ : Type} {g : α → β → γ} {x : Outcome α} {y : Outcome β}
    (hx : x ≠ .panic) (hy : y ≠ .panic) : seq2 g x y ≠ .panic := by
  cases x with
  | ok a =>
    cases y with
    | ok b => nofun
    | err => nofun
    | panic => exact absurd rfl hy
  | err => nofun
  | panic => exact absurd rfl hx

/-- The concatenation of two lawful encodings is lawful. -/
theorem lawful_seq {α β γ : Type} {C : Codec α} {D : Codec β} {E : Codec γ} (hC : Lawful C) (hD : Lawful D)
    (g : α → β → γ) (hs : E.size = C.size + D.size) (he : ∀ a b, E.enc (g a b) = C.enc a ++ D.enc b)
    (hd : ∀ bs, E.dec bs =
      if bs.length ≠ E.size then .panic else seq2 g (C.dec (bs.take C.size)) (D.dec (bs.drop C.size)))
    (hc : ∀ c, E.canon c ↔ ∃ a b, g a b = c ∧ C.canon a ∧ D.canon b) : Lawful E where
  encode_length c hv := by
    obtain ⟨a, b, rfl, ha, hb⟩ := (hc c).1 hv
    obtain ⟨h1, b1⟩ := hC.encode_length a ha
    obtain ⟨h2, b2⟩ := hD.encode_length b hb
    exact ⟨by rw [he, List.length_append, h1, h2, hs], he a b ▸ Bytes_append b1 b2⟩
  decode_encode c hv := by
    obtain ⟨a, b, rfl, ha, hb⟩ := (hc c).1 hv
    have h1 := (hC.encode_length a ha).1
    have h2 := (hD.encode_length b hb).1
    rw [hd, he, if_neg (by rw [List.length_append, h1, h2, hs]; exact fun h => h rfl), ← h1, List.take_left' rfl,
      List.drop_left' rfl, hC.decode_encode a ha, hD.decode_encode b hb]
    rfl
  decode_canonical bs c hb h := by
    rw [hd] at h
    split at h
    · cases h
    · obtain ⟨a, b, h1, h2, rfl⟩ := seq2_eq_ok h
      obtain ⟨c1, e1⟩ := hC.decode_canonical _ _ (Bytes_take _ hb) h1
      obtain ⟨c2, e2⟩ := hD.decode_canonical _ _ (Bytes_drop _ hb) h2
      exact ⟨(hc _).2 ⟨a, b, rfl, c1, c2⟩, by rw [he, e1, e2, List.take_append_drop]⟩
  decode_total bs hl := by
    rw [hd, if_neg (fun h => h hl)]
    rw [hs] at hl
    exact seq2_ne_panic (hC.decode_total _ (by rw [List.length_take, hl]; omega))
      (hD.decode_total _ (by rw [List.length_drop, hl]; omega))

theorem pairCodec_dec_eq {α β : Type} (C : Codec α) (D : Codec β) (bs : List Nat) : (pairCodec C D).dec bs =
    if bs.length ≠ (pairCodec C D).size then .panic else seq2 Prod.mk (C.dec (bs.take C.size)) (D.dec (bs.drop C.size)) :=
  rfl

/-- `AdditiveShare<V>` = left ‖ right: a pair of lawful encodings is lawful. -/
theorem lawful_pair {α β : Type} {C : Codec α} {D : Codec β} (hC : Lawful C) (hD : Lawful D) :
    Lawful (pairCodec C D) :=
  lawful_seq hC hD Prod.mk rfl (fun _ _ => rfl) (pairCodec_dec_eq C D)
    fun v => ⟨fun h => ⟨v.1, v.2, rfl, h⟩, fun ⟨_, _, e, h⟩ => e ▸ h⟩

theorem decAll_succ {α : Type} (C : Codec α) (n : Nat) (bs : List Nat) :
    decAll C (n + 1) bs = seq2 List.cons (C.dec (bs.take C.size)) (decAll C n (bs.drop C.size)) := by
  rw [decAll]
  cases C.dec (bs.take C.size) with
  | ok v => cases decAll C n (bs.drop C.size) <;> rfl
  | err => rfl
  | panic => rfl

theorem arrCodec_zero_dec_ok {α : Type} {C : Codec α} {bs : List Nat} {vs : List α}
    (h : (arrCodec C 0).dec bs = .ok vs) : bs = [] ∧ vs = [] := by
  match bs with
  | [] => cases h; exact ⟨rfl, rfl⟩
  | _ :: _ => cases h

theorem lawful_arr_zero {α : Type} (C : Codec α) : Lawful (arrCodec C 0) where
  encode_length vs hv := by
    obtain rfl := List.eq_nil_of_length_eq_zero hv.1
    exact ⟨rfl, Bytes_nil⟩
  decode_encode vs hv := by
    obtain rfl := List.eq_nil_of_length_eq_zero hv.1
    rfl
  decode_canonical bs vs _ h := by
    obtain ⟨rfl, rfl⟩ := arrCodec_zero_dec_ok h
    exact ⟨⟨rfl, nofun⟩, rfl⟩
  decode_total bs hl := by
    obtain rfl := List.eq_nil_of_length_eq_zero hl
    nofun

/-- `StdArray<V, N>`, `[Hash; N]`, …: an array of any length `N` of a lawful encoding is lawful. -/
theorem lawful_arr {α : Type} {C : Codec α} (hC : Lawful C) (n : Nat) : Lawful (arrCodec C n) := by
  induction n with
  | zero => exact lawful_arr_zero C
  | succ n ih =>
    have hs : C.size * (n + 1) = C.size + C.size * n := (Nat.mul_succ ..).trans (Nat.add_comm ..)
    refine lawful_seq hC ih List.cons hs (fun _ _ => rfl) (fun bs => ?_) (fun vs => ⟨fun h => ?_, ?_⟩)
    · by_cases hl : bs.length = C.size * (n + 1)
      · have : (bs.drop C.size).length = C.size * n := by rw [List.length_drop, hl, hs, Nat.add_sub_cancel_left]
        simp only [arrCodec, hl, this, decAll_succ, ne_eq, not_true_eq_false, if_false]
      · simp only [arrCodec, hl, ne_eq, not_false_eq_true, if_true]
    · match vs, h with
      | a :: as, h =>
        exact ⟨a, as, rfl, h.2 a (List.mem_cons_self ..), Nat.succ.inj h.1, fun v hv => h.2 v (List.mem_cons_of_mem _ hv)⟩
    · rintro ⟨a, as, rfl, ha, hl, has⟩
      exact ⟨congrArg Nat.succ hl, List.forall_mem_cons.2 ⟨ha, has⟩⟩

theorem encAll_length {α : Type} {C : Codec α} (hC : Lawful C) (vs : List α) (hv : ∀ v ∈ vs, C.canon v) :
    (encAll C vs).length = C.size * vs.length ∧ Bytes (encAll C vs) :=
  (lawful_arr hC vs.length).encode_length vs ⟨rfl, hv⟩

theorem decAll_encAll {α : Type} {C : Codec α} (hC : Lawful C) (vs : List α) (hv : ∀ v ∈ vs, C.canon v) :
    decAll C vs.length (encAll C vs) = .ok vs := by
  have h := (lawful_arr hC vs.length).decode_encode vs ⟨rfl, hv⟩
  simp only [arrCodec, (encAll_length hC vs hv).1, ne_eq, not_true_eq_false, if_false] at h
  exact h

/-- Well-formed type expressions: the prime fits its backing store; bit-array instances are well formed.
`Fp25519` is excluded (its decoder reduces instead of rejecting: finding F9, see `fp25519_*`). -/
def _root_.IpaVerif.Serde.Ty.WF : Ty → Prop
  | .prime P => P.p ≤ 256 ^ (P.storeBits / 8)
  | .boolean => True
  | .bits T => T.WF
  | .fp25519 => False
  | .share t => t.WF
  | .arr _ t => t.WF
  | .pair a b => a.WF ∧ b.WF

theorem lawful_codecOf (t : Ty) (h : t.WF) : Lawful (codecOf t) := by
  induction t with
  | prime P => exact lawful_prime P h
  | boolean => exact lawful_bool
  | bits T => exact lawful_bits T h
  | fp25519 => exact h.elim
  | share t ih => exact lawful_pair (ih h) (ih h)
  | arr n t ih => exact lawful_arr (ih h) n
  | pair a b iha ihb => exact lawful_pair (iha h.1) (ihb h.2)

end IpaVerif.C09
