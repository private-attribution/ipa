import IpaVerif.Proofs.C04Mac
/-!
# C04 — helper lemmas: the accumulated MAC terms of a run, validation, honest runs, openings
-/
namespace IpaVerif.C04
open IpaVerif.Sharing IpaVerif.Mac IpaVerif.Generated.Mac

variable {R : Type} [CommRing R]

/-- the `(α̂_k, D_k)` of the recorded gates (upgrades and multiplications), in order; `ws` = plaintext wires so far. -/
def macTerms (rh : R) : List (Gate R) → List (PW R) → List (R × R)
  | [], _ => []
  | g :: gs, ws =>
    (match g with
      | .upgrade _ _ α e' => [(rec α, errSum e')]
      | .mul i j _ _ α e e' => [(rec α, (pget ws i).disc * (pget ws j).val + errSum e' - rh * errSum e)]
      | _ => []) ++ macTerms rh gs (pstep rh (ws, 0) g).1

def termSum (ts : List (R × R)) : R := (ts.map (fun t => t.1 * t.2)).sum

def wiresAfter (rh : R) : List (Gate R) → List (PW R) → List (PW R)
  | [], ws => ws
  | g :: gs, ws => wiresAfter rh gs (pstep rh (ws, 0) g).1

@[simp] theorem termSum_nil : termSum ([] : List (R × R)) = 0 := rfl
@[simp] theorem termSum_cons (t : R × R) (ts : List (R × R)) : termSum (t :: ts) = t.1 * t.2 + termSum ts := by
  simp only [termSum, List.map_cons, List.sum_cons]
theorem termSum_append (a b : List (R × R)) : termSum (a ++ b) = termSum a + termSum b := by
  simp only [termSum, List.map_append, List.sum_append]

theorem macTerms_append (rh : R) (gs gs' : List (Gate R)) (ws : List (PW R)) :
    macTerms rh (gs ++ gs') ws = macTerms rh gs ws ++ macTerms rh gs' (wiresAfter rh gs ws) := by
  induction gs generalizing ws with
  | nil => rfl
  | cons g gs ih => simp only [List.cons_append, macTerms, wiresAfter, ih, List.append_assoc]

theorem macTerms_cons (rh : R) (g : Gate R) (gs : List (Gate R)) (ws : List (PW R)) :
    macTerms rh (g :: gs) ws = macTerms rh [g] ws ++ macTerms rh gs (pstep rh (ws, 0) g).1 :=
  macTerms_append rh [g] gs ws

theorem pstep_T (rh : R) (ws : List (PW R)) (t : R) (g : Gate R) :
    pstep rh (ws, t) g = ((pstep rh (ws, 0) g).1, t + termSum (macTerms rh [g] ws)) := by
  cases g <;> simp only [pstep, macTerms, List.append_nil, termSum_cons, termSum_nil, add_zero]

theorem macTerms_of_pstep {rh : R} {ws ws' : List (PW R)} {t' : R} {g : Gate R} (h : pstep rh (ws, 0) g = (ws', t')) :
    (pstep rh (ws, 0) g).1 = ws' ∧ termSum (macTerms rh [g] ws) = t' :=
  ⟨congrArg Prod.fst h, (zero_add _).symm.trans (congrArg Prod.snd ((pstep_T rh ws 0 g).symm.trans h))⟩

theorem run_rel {r : World R} (hr : Consistent r) {gs : List (Gate R)} (hg : ∀ g ∈ gs, GateOk g) {st : St R}
    {ws : List (PW R)} {t : R} (h : Rel (rec r) st (ws, t)) :
    Rel (rec r) (run (ringAlg R) r gs st) (wiresAfter (rec r) gs ws, t + termSum (macTerms (rec r) gs ws)) := by
  induction gs generalizing st ws t with
  | nil => simpa only [run, wiresAfter, macTerms, termSum_nil, add_zero] using h
  | cons g gs ih =>
    have hs := step_rel hr h (hg g List.mem_cons_self)
    rw [pstep_T] at hs
    have := ih (fun g' hg' => hg g' (List.mem_cons_of_mem _ hg')) hs
    rwa [add_assoc, ← termSum_append, ← macTerms_cons] at this

theorem accT_initAcc (rh : R) (mu mw : Masks R) : accT rh (initAcc (ringAlg R) mu mw) = 0 := by
  simp only [accT, initAcc, zeroLoc, locSum, ringAlg]; ring

theorem run_rel_init {r : World R} (hr : Consistent r) (mu mw : Masks R) {gs : List (Gate R)}
    (hg : ∀ g ∈ gs, GateOk g) :
    Rel (rec r) (run (ringAlg R) r gs ⟨[], initAcc (ringAlg R) mu mw⟩)
      (wiresAfter (rec r) gs [], termSum (macTerms (rec r) gs [])) := by
  have h0 : Rel (rec r) ⟨[], initAcc (ringAlg R) mu mw⟩ ([], 0) :=
    ⟨List.forall_mem_nil _, rfl, accT_initAcc _ mu mw⟩
  simpa only [zero_add] using run_rel hr hg h0

theorem propagateE_consistent (e : Err R) (v : Loc R) : Consistent (propagateE (ringAlg R) e v) := ⟨rfl, rfl, rfl⟩

theorem rec_propagateE (e : Err R) (v : Loc R) : rec (propagateE (ringAlg R) e v) = locSum v + errSum e := by
  simp only [propagateE, propagateToRight, if_true, rec, reconstruct, ringAlg, locSum, errSum]; ring

theorem tShare_eq (rOpen : R) (u w : World R) :
    tShare (ringAlg R) rOpen u w = subS (ringAlg R) u (mulConstS (ringAlg R) rOpen w) := rfl

theorem checkZeroOpened_eq (ρ : Masks R) (mask : World R) (e : Err R) (v : World R) :
    checkZeroOpened (ringAlg R) ρ mask e v = rec (mulE (ringAlg R) ρ e mask v) := rfl

theorem tOf_value (rOpen : R) (acc : Acc R) (ve : ValErr R) :
    Consistent (tOf (ringAlg R) rOpen acc ve) ∧
    rec (tOf (ringAlg R) rOpen acc ve) = accT rOpen acc + (errSum ve.eu - errSum ve.ew * rOpen) := by
  refine ⟨map2_consistent (propagateE_consistent _ _) (propagateE_consistent _ _), ?_⟩
  rw [tOf, tShare_eq, rec_subS, rec_mulConstS, rec_propagateE, rec_propagateE, accT]; ring

theorem validateE_iff [DecidableEq R] {r : World R} {acc : Acc R} {ve : ValErr R} {czρ : Masks R} {czMask : World R}
    (hcz : Consistent czMask) :
    validateE (ringAlg R) r acc ve czρ czMask = true ↔
      rec czMask * (accT (rec r) acc + (errSum ve.eu - errSum ve.ew * rec r)) + errSum ve.ecz = 0 := by
  obtain ⟨hc, hv⟩ := tOf_value (rec r) acc ve
  rw [validateE, decide_eq_true_eq, checkZeroOpened_eq, mulE_reconstruct czρ ve.ecz hcz hc, hv]
  rfl

theorem validate_honest [DecidableEq R] {r : World R} {acc : Acc R} (hT : accT (rec r) acc = 0) {czρ : Masks R}
    {czMask : World R} (hcz : Consistent czMask) :
    rec (tOf (ringAlg R) (rec r) acc (noValErr (ringAlg R))) = 0 ∧
      validateE (ringAlg R) r acc (noValErr (ringAlg R)) czρ czMask = true := by
  rw [validateE_iff hcz, (tOf_value (rec r) acc _).2, hT]
  simp only [noValErr, errSum_noErr, zero_mul, sub_zero, add_zero, mul_zero, and_self]

/-- plaintext meaning of a circuit: the list of wire values. -/
def plainStep (vs : List R) : Gate R → R
  | .upgrade x _ _ _ => rec x
  | .mul i j _ _ _ _ _ => vs.getD i 0 * vs.getD j 0
  | .add i j => vs.getD i 0 + vs.getD j 0
  | .sub i j => vs.getD i 0 - vs.getD j 0
  | .neg i => - vs.getD i 0
  | .mulConst i c => vs.getD i 0 * c

def plain : List (Gate R) → List R → List R
  | [], vs => vs
  | g :: gs, vs => plain gs (vs ++ [plainStep vs g])

/-- the messages of the gate carry no (net) error. -/
def GateHonest : Gate R → Prop
  | .upgrade _ _ _ e' => errSum e' = 0
  | .mul _ _ _ _ _ e e' => errSum e = 0 ∧ errSum e' = 0
  | _ => True

def intact (v : R) : PW R := ⟨v, 0⟩

theorem pget_intact (vs : List R) (i : Nat) : pget (vs.map intact) i = intact (vs.getD i 0) :=
  List.getD_map vs 0 intact

theorem pstep_honest (rh : R) (vs : List R) (t : R) {g : Gate R} (hg : GateHonest g) :
    pstep rh (vs.map intact, t) g = ((vs ++ [plainStep vs g]).map intact, t) := by
  cases g with
  | upgrade x ρ α e' =>
    simp only [pstep, plainStep, intact, show errSum e' = 0 from hg, List.map_append, List.map_singleton, mul_zero, add_zero]
  | mul i j ρ ρ' α e e' =>
    simp only [pstep, plainStep, pget_intact, intact, hg.1, hg.2, List.map_append, List.map_singleton, zero_mul, mul_zero,
      add_zero, sub_zero]
  | _ =>
    simp only [pstep, plainStep, pget_intact, intact, List.map_append, List.map_singleton, add_zero, sub_zero, neg_zero,
      zero_mul]

theorem wiresAfter_honest (rh : R) {gs : List (Gate R)} (hh : ∀ g ∈ gs, GateHonest g) (vs : List R) :
    wiresAfter rh gs (vs.map intact) = (plain gs vs).map intact ∧ termSum (macTerms rh gs (vs.map intact)) = 0 := by
  induction gs generalizing vs with
  | nil => exact ⟨rfl, rfl⟩
  | cons g gs ih =>
    obtain ⟨hs, h0⟩ := macTerms_of_pstep (pstep_honest rh vs 0 (hh g List.mem_cons_self))
    rw [macTerms_cons, termSum_append, h0, zero_add, wiresAfter, plain, hs]
    exact ih (fun g' hg' => hh g' (List.mem_cons_of_mem _ hg')) (vs ++ [plainStep vs g])

theorem run_rel_honest {r : World R} (hr : Consistent r) (mu mw : Masks R) {gs : List (Gate R)}
    (hg : ∀ g ∈ gs, GateOk g) (hh : ∀ g ∈ gs, GateHonest g) :
    Rel (rec r) (run (ringAlg R) r gs ⟨[], initAcc (ringAlg R) mu mw⟩) ((plain gs []).map intact, 0) := by
  obtain ⟨hw, ht⟩ : wiresAfter (rec r) gs [] = _ ∧ termSum (macTerms (rec r) gs []) = 0 := wiresAfter_honest (rec r) hh []
  exact hw ▸ ht ▸ run_rel_init hr mu mw hg

/-- `(α̂_k, δ′_k − r̂·δ_k)` of the recorded gates. -/
def flatTerms (rh : R) : List (Gate R) → List (R × R)
  | [] => []
  | g :: gs =>
    (match g with
      | .upgrade _ _ α e' => [(rec α, errSum e')]
      | .mul _ _ _ _ α e e' => [(rec α, errSum e' - rh * errSum e)]
      | _ => []) ++ flatTerms rh gs

/-- the left operand of every multiplication carries an intact MAC (`rx = r̂·x`). -/
def NoFeed (rh : R) : List (Gate R) → List (PW R) → Prop
  | [], _ => True
  | g :: gs, ws =>
    (match g with
      | .mul i _ _ _ _ _ _ => (pget ws i).disc = 0
      | _ => True) ∧ NoFeed rh gs (pstep rh (ws, 0) g).1

theorem macTerms_flat (rh : R) (gs : List (Gate R)) (ws : List (PW R)) (h : NoFeed rh gs ws) :
    macTerms rh gs ws = flatTerms rh gs := by
  induction gs generalizing ws with
  | nil => rfl
  | cons g gs ih =>
    cases g with
    | mul i j ρ ρ' α e e' =>
      simp only [macTerms, flatTerms, ih _ h.2, show (pget ws i).disc = 0 from h.1, zero_mul, zero_add]
    | _ => simp only [macTerms, flatTerms, ih _ h.2]

omit [CommRing R] in
theorem view_congr (w : World R) {a b : Nat} (h : a % 3 = b % 3) : view w a = view w b := by
  unfold view; rw [h]

omit [CommRing R] in
theorem view_add (w : World R) (h k : Nat) : view w (h + k) = view w (h % 3 + k) :=
  view_congr w (Nat.mod_add_mod h 3 k).symm

theorem view_cyc {w : World R} (hw : Consistent w) (h : Nat) :
    (view w h).r = (view w (h + 1)).l ∧ (view w (h + 1)).r = (view w (h + 2)).l ∧
      (view w (h + 2)).l + (view w h).l + (view w (h + 1)).l = rec w := by
  rw [view_add w h 1, view_add w h 2, show view w h = view w (h % 3 + 0) from view_add w h 0]
  have hk := Nat.mod_lt h (show 0 < 3 by decide)
  generalize h % 3 = k at hk
  obtain ⟨h1, h2, h3⟩ := hw
  obtain _ | _ | _ | k := k
  · exact ⟨h1, h2, add_rotate _ _ _⟩
  · exact ⟨h2, h3, rfl⟩
  · exact ⟨h3, h1, (add_rotate _ _ _).symm⟩
  · exact absurd hk (Nat.not_lt.mpr (Nat.le_add_left 3 k))

theorem reveal_honest [DecidableEq R] (w : World R) (hw : Consistent w) (h : Nat) (hh : h < 3) :
    revealHonest (ringAlg R) w h = some (rec w) := by
  obtain ⟨a, b, c⟩ := view_cyc hw h
  simp only [revealHonest, revealAt, revealMsgToLeft, revealMsgToRight, revealToLeftSendsRight,
    revealToRightSendsLeft, if_true, b, a, ← c]
  rfl

end IpaVerif.C04
