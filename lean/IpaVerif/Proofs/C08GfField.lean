import IpaVerif.Proofs.C08GfRing
import Mathlib.GroupTheory.OrderOfElement
/-!
# From a generator-order certificate to "every non-zero element is invertible"

For well-formed parameters `P` the `2^k` canonical values form a commutative monoid under the
modelled `Mul` (`C08GfRing`). If `g^(2^k-1) = 1` and `g^((2^k-1)/q) ≠ 1` for every prime
`q ∣ 2^k-1`, then `orderOf g = 2^k-1`, the powers `g^0 … g^(2^k-2)` are `2^k-1` distinct non-zero
values, i.e. all of them, and `g^i · g^(2^k-1-i) = 1`.
-/
namespace IpaVerif.C08
open IpaVerif.Gf2k

/-- The field property of one binary field type, in terms of the modelled `Mul`. -/
def IsFieldModel (P : Params) : Prop :=
  (∀ a, a < 2 ^ P.bits → a ≠ 0 → ∃ b, b < 2 ^ P.bits ∧ mul P a b = some 1) ∧
  (∀ a b, a < 2 ^ P.bits → b < 2 ^ P.bits → mul P a b = some 0 → a = 0 ∨ b = 0)

end IpaVerif.C08

-- `monoid w` is brought in with `letI`, not `haveI`: the proofs unfold its multiplication
set_option linter.style.haveILetI false
namespace IpaVerif.GfField
open IpaVerif.Gf2k IpaVerif.GfRing

/-- canonical elements of the field described by `P` -/
structure Elt (P : Params) where
  val : Nat
  lt : val < 2 ^ P.bits

theorem Elt.ext' {P : Params} {a b : Elt P} (h : a.val = b.val) : a = b := by
  cases a; cases b; simp at h; subst h; rfl

instance (P : Params) : DecidableEq (Elt P) := fun a b =>
  if h : a.val = b.val then isTrue (Elt.ext' h) else isFalse (fun e => h (by rw [e]))

@[reducible] def monoid {P : Params} (w : WF P) : CommMonoid (Elt P) where
  mul a b := ⟨mulRaw P a.val b.val, (mulRaw_spec w a.lt b.lt).1⟩
  one := ⟨1, by have := Nat.pow_le_pow_right (n := 2) (by decide) w.bits_pos; omega⟩
  mul_assoc a b c := Elt.ext' (mulRaw_assoc w a.lt b.lt c.lt)
  one_mul a := Elt.ext' (by
    show mulRaw P 1 a.val = a.val
    rw [mulRaw_comm w (by have := Nat.pow_le_pow_right (n := 2) (by decide) w.bits_pos; omega) a.lt]
    exact mulRaw_one w a.lt)
  mul_one a := Elt.ext' (mulRaw_one w a.lt)
  mul_comm a b := Elt.ext' (mulRaw_comm w a.lt b.lt)

section
variable {P : Params} (w : WF P)

theorem mul_val (a b : Elt P) : (letI := monoid w; (a * b).val) = mulRaw P a.val b.val := rfl
theorem one_val : (letI := monoid w; (1 : Elt P).val) = 1 := rfl

theorem mul_eq_some_val (a b : Elt P) : mul P a.val b.val = some (letI := monoid w; (a * b).val) :=
  mul_eq_some w a.lt b.lt

theorem powLoop_spec (fuel e : Nat) (b acc : Elt P) (h : e < 2 ^ fuel) :
    powLoop P fuel b.val e acc.val = some (letI := monoid w; (acc * b ^ e).val) := by
  letI := monoid w
  induction fuel generalizing e b acc with
  | zero => rw [Nat.lt_one_iff.mp h, powLoop, pow_zero, mul_one]
  | succ fuel ih =>
    rw [powLoop]
    split
    · rw [‹e = 0›, pow_zero, mul_one]
    · have hacc : (if e % 2 = 1 then mul P acc.val b.val else some acc.val) = some (acc * b ^ (e % 2)).val := by
        rcases Nat.mod_two_eq_zero_or_one e with h | h
        · rw [h, if_neg Nat.zero_ne_one, pow_zero, mul_one]
        · rw [h, if_pos rfl, pow_one, mul_eq_some_val w]
      rw [hacc, mul_eq_some_val w b b]
      show powLoop P fuel (b * b).val (e / 2) (acc * b ^ (e % 2)).val = _
      rw [ih _ _ _ (Nat.div_lt_of_lt_mul (Nat.pow_succ' ▸ h)), mul_assoc, ← pow_two, ← pow_mul, ← pow_add,
        Nat.mod_add_div]

theorem pow_spec (g : Elt P) (e : Nat) : pow P g.val e = some (letI := monoid w; (g ^ e).val) := by
  letI := monoid w
  have := powLoop_spec w (bitLen e) e g 1 (lt_two_pow_bitLen e)
  rwa [one_mul] at this

theorem val_ne_zero_of_isUnit (u : Elt P) (hu : letI := monoid w; IsUnit u) : u.val ≠ 0 := by
  letI := monoid w
  intro hz
  obtain ⟨v, hv⟩ := hu.exists_right_inv
  have : (u * v).val = 0 := by
    rw [mul_comm]; show mulRaw P v.val u.val = 0
    rw [hz]; exact mulRaw_zero w v.lt
  rw [hv] at this
  exact absurd this Nat.one_ne_zero

include w in
theorem inverse_of_generator (g : Nat) (hg : g < 2 ^ P.bits)
    (h1 : pow P g (2 ^ P.bits - 1) = some 1)
    (hq : ∀ q, q.Prime → q ∣ 2 ^ P.bits - 1 → pow P g ((2 ^ P.bits - 1) / q) ≠ some 1) :
    ∀ a, a < 2 ^ P.bits → a ≠ 0 → ∃ b, b < 2 ^ P.bits ∧ mul P a b = some 1 := by
  letI := monoid w
  let G : Elt P := ⟨g, hg⟩
  have hNpos : 0 < 2 ^ P.bits - 1 := Nat.sub_pos_of_lt w.one_lt
  have hG1 : G ^ (2 ^ P.bits - 1) = 1 :=
    Elt.ext' (Option.some.inj ((pow_spec w G _).symm.trans h1))
  have hGq : ∀ q, q.Prime → q ∣ 2 ^ P.bits - 1 → G ^ ((2 ^ P.bits - 1) / q) ≠ 1 := by
    intro q hp hd e
    apply hq q hp hd
    rw [pow_spec w G, e]; rfl
  have hord : orderOf G = 2 ^ P.bits - 1 := orderOf_eq_of_pow_and_pow_div_prime hNpos hG1 hGq
  have hunit (i : Nat) : IsUnit (G ^ i) := (IsUnit.of_pow_eq_one hG1 (Nat.ne_of_gt hNpos)).pow i
  -- the `2^k - 1` powers of `G` are distinct non-zero values, hence all of them
  have hsurj := Finset.surj_on_of_inj_on_of_card_le (s := Finset.range (2 ^ P.bits - 1))
    (t := (Finset.range (2 ^ P.bits)).erase 0) (fun i _ => (G ^ i).val)
    (fun i _ => Finset.mem_erase.mpr ⟨val_ne_zero_of_isUnit w _ (hunit i), Finset.mem_range.mpr (G ^ i).lt⟩)
    (fun i j hi hj hij => pow_injOn_Iio_orderOf (by rw [hord]; simpa using hi) (by rw [hord]; simpa using hj)
      (Elt.ext' hij))
    (by rw [Finset.card_erase_of_mem (Finset.mem_range.mpr (Nat.two_pow_pos _)), Finset.card_range, Finset.card_range])
  intro a ha ha0
  obtain ⟨i, _, rfl⟩ := hsurj a (Finset.mem_erase.mpr ⟨ha0, Finset.mem_range.mpr ha⟩)
  obtain ⟨v, hv⟩ := (hunit i).exists_right_inv
  exact ⟨v.val, v.lt, by rw [mul_eq_some_val w, hv]; rfl⟩

end

theorem prime_dvd_mem (l : List (Nat × Nat)) (hl : ∀ qe ∈ l, qe.1.Prime) (p : Nat) (hp : p.Prime)
    (hd : p ∣ (l.map (fun qe => qe.1 ^ qe.2)).foldl (· * ·) 1) : ∃ qe ∈ l, p = qe.1 := by
  rw [← List.prod_eq_foldl, Prime.dvd_prod_iff (Nat.prime_iff.mp hp)] at hd
  obtain ⟨x, hx, hpx⟩ := hd
  obtain ⟨qe, hqe, rfl⟩ := List.mem_map.mp hx
  exact ⟨qe, hqe, (Nat.prime_dvd_prime_iff_eq hp (hl qe hqe)).mp (hp.dvd_of_dvd_pow hpx)⟩

/-- The checked certificate (`certOk`, evaluated by the kernel) together with primality of the listed
factors gives inverses for all non-zero elements, hence no zero divisors. -/
theorem field_of_cert (C : Cert) (w : WF C.field) (hok : certOk C = true)
    (hprime : ∀ qe ∈ C.orderFactors, qe.1.Prime) : C08.IsFieldModel C.field := by
  simp only [certOk, Bool.and_eq_true, decide_eq_true_eq, beq_iff_eq, List.all_eq_true, bne_iff_ne] at hok
  obtain ⟨⟨⟨hg, hfac⟩, h1⟩, hq⟩ := hok
  have hinv := inverse_of_generator w C.gen hg h1 fun q hqp hqd => by
    obtain ⟨qe, hqe, rfl⟩ := prime_dvd_mem C.orderFactors hprime q hqp (hfac ▸ hqd)
    exact hq qe hqe
  refine ⟨hinv, fun a b ha hb hab => ?_⟩
  by_cases ha0 : a = 0
  · exact Or.inl ha0
  · right
    obtain ⟨c, hc, hac⟩ := hinv a ha ha0
    have hab0 := mulRaw_of_mul w ha hb hab
    have hac1 := mulRaw_of_mul w ha hc hac
    -- b = (c·a)·b = c·(a·b) = c·0 = 0
    have := mulRaw_assoc w hc ha hb
    rwa [mulRaw_comm w hc ha, hac1, hab0, mulRaw_zero w hc, mulRaw_comm w w.one_lt hb, mulRaw_one w hb] at this

end IpaVerif.GfField
