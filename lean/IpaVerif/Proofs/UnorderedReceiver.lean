import IpaVerif.Model.UnorderedReceiver
/-! `UnorderedReceiver` against the bytes fed so far (C14(c)): `Spare`/`pull`, `wake_next`, the
invariant `RInv` and what one poll does (`recv_step`).  Core Lean only. -/
namespace IpaVerif.UnorderedReceiver

/-- Bytes received from the stream and not yet handed out. -/
def State.remaining (s : State) : List Nat := s.spareBuf.drop s.spareOff ++ s.queue.flatten

theorem pull_spec (sz : Nat) (q : List (List Nat)) : ∀ (buf : List Nat) (off : Nat)
    {buf' : List Nat} {off' : Nat} {q' : List (List Nat)} {r : Option (List Nat)},
    off ≤ buf.length → buf.length - off < sz → pull sz buf off q = (buf', off', q', r) →
    off' ≤ buf'.length ∧
    match r with
    | some m => m.length = sz ∧ buf.drop off ++ q.flatten = m ++ (buf'.drop off' ++ q'.flatten)
    | none => buf'.drop off' ++ q'.flatten = buf.drop off ++ q.flatten ∧ q' = [] ∧
        (buf.drop off ++ q.flatten).length < sz := by
  induction q with
  | nil =>
    intro buf off buf' off' q' r h1 h2 h
    cases h
    simp only [List.flatten_nil, List.append_nil, List.length_drop]
    exact ⟨h1, trivial, trivial, h2⟩
  | cons b rest ih =>
    intro buf off buf' off' q' r h1 h2 h
    simp only [pull] at h
    by_cases hlt : buf.length - off + b.length < sz
    · rw [if_pos hlt] at h
      have := ih (buf.drop off ++ b) 0 (Nat.zero_le _)
        (by rw [List.length_append, List.length_drop]; exact hlt) h
      simpa only [List.drop_zero, List.flatten_cons, List.append_assoc] using this
    · rw [if_neg hlt] at h
      cases h
      simp only [List.drop_zero, List.flatten_cons, List.length_append, List.length_drop,
        List.length_take]
      refine ⟨Nat.zero_le _, ?_, ?_⟩
      · rw [Nat.min_eq_left (Nat.sub_le_iff_le_add'.mpr (Nat.le_of_not_lt hlt)),
          Nat.add_sub_of_le (Nat.le_of_lt h2)]
      rw [List.append_assoc, ← List.append_assoc (b.take _), List.take_append_drop]

/-- Rounding down to a multiple of `h` is `h * (n / h)`, and the quotient stays when `h ∤ n + 1`. -/
theorem roundDown_succ {n h : Nat} (hne : (n + 1) % h ≠ 0) : (n + 1) - (n + 1) % h = n - n % h := by
  rw [← Nat.mul_div_self_eq_mod_sub_self, ← Nat.mul_div_self_eq_mod_sub_self,
    Nat.succ_div_of_mod_ne_zero hne]

structure RInv (s : State) (fed : List Nat) : Prop where
  hcap : 2 ≤ s.cap
  off_le : s.spareOff ≤ s.spareBuf.length
  rem : s.remaining = fed.drop (s.next * s.sz)
  consumed : s.next * s.sz ≤ fed.length
  ring : ∀ k w j, s.ring k = some (w, j) → j % s.cap = k ∧ s.next < j ∧ j ≤ s.next + s.cap
  ov : ∀ w j, (w, j) ∈ s.overflow → j > s.next - s.next % (s.cap / 2) + s.cap

theorem wakeNext_spec (s : State)
    (hring : ∀ k w j, s.ring k = some (w, j) → j % s.cap = k ∧ s.next < j ∧ j ≤ s.next + s.cap)
    (hov : ∀ w j, (w, j) ∈ s.overflow → j > s.next - s.next % (s.cap / 2) + s.cap) :
    let r := s.wakeNext
    r.1.next = s.next + 1 ∧ r.1.sz = s.sz ∧ r.1.cap = s.cap ∧ r.1.spareBuf = s.spareBuf ∧
    r.1.spareOff = s.spareOff ∧ r.1.queue = s.queue ∧ r.1.ended = s.ended ∧
    (∀ k w j, r.1.ring k = some (w, j) → j % s.cap = k ∧ s.next + 1 < j ∧ j ≤ s.next + 1 + s.cap) ∧
    (∀ w j, (w, j) ∈ r.1.overflow → j > (s.next + 1) - (s.next + 1) % (s.cap / 2) + s.cap) ∧
    (∀ w0 j, s.ring ((s.next + 1) % s.cap) = some (w0, j) → j = s.next + 1 ∧ w0 ∈ r.2) ∧
    (∀ w j, (w, j) ∈ s.overflow → (s.next + 1) % (s.cap / 2) = 0 → w ∈ r.2) := by
  have hringN : ∀ k w j, (if k = (s.next + 1) % s.cap then none else s.ring k) = some (w, j) →
      j % s.cap = k ∧ s.next + 1 < j ∧ j ≤ s.next + 1 + s.cap := by
    intro k w j hk
    split at hk
    · cases hk
    · rename_i hne
      obtain ⟨a, b, c⟩ := hring k w j hk
      have : s.next + 1 ≠ j := by rintro rfl; exact hne a.symm
      exact ⟨a, Nat.lt_of_le_of_ne b this, Nat.le_trans c (Nat.add_le_add_right (Nat.le_succ _) _)⟩
  have hwake : ∀ w0 j, s.ring ((s.next + 1) % s.cap) = some (w0, j) → j = s.next + 1 := by
    intro w0 j hk
    obtain ⟨a, b, c⟩ := hring _ w0 j hk
    -- j ≡ next+1 (mod cap), next < j ≤ next + cap  ⇒  j - (next+1) is a multiple of cap below cap
    have hlt : j - (s.next + 1) < s.cap := by omega
    have : (j - (s.next + 1)) % s.cap = 0 := Nat.sub_mod_eq_zero_of_mod_eq a
    rw [Nat.mod_eq_of_lt hlt] at this
    exact Nat.le_antisymm (Nat.le_of_sub_eq_zero this) b
  have hwoken : ∀ w0 j, s.ring ((s.next + 1) % s.cap) = some (w0, j) →
      w0 ∈ (match s.ring ((s.next + 1) % s.cap) with
        | some (w, _) => [w]
        | none => []) :=
    fun w0 j hk => by rw [hk]; exact List.mem_singleton_self _
  unfold State.wakeNext Generated.Buffers.receiverOverflowDiv
  dsimp only
  by_cases hz : (s.next + 1) % (s.cap / 2) = 0
  · rw [if_pos hz]
    exact ⟨rfl, rfl, rfl, rfl, rfl, rfl, rfl, hringN, nofun,
      fun w0 j hk => ⟨hwake w0 j hk, List.mem_append_left _ (hwoken w0 j hk)⟩,
      fun w j hm _ => List.mem_append_right _ (List.mem_map.mpr ⟨(w, j), hm, rfl⟩)⟩
  · rw [if_neg hz]
    exact ⟨rfl, rfl, rfl, rfl, rfl, rfl, rfl, hringN, fun w j hm => roundDown_succ hz ▸ hov w j hm,
      fun w0 j hk => ⟨hwake w0 j hk, hwoken w0 j hk⟩, fun _ _ _ h0 => absurd h0 hz⟩

structure RecvOk (s s' : State) (fed : List Nat) (i : Nat) (o : Out) : Prop where
  ok_slice : ∀ m, o.res = .ok m → i = s.next ∧ m = (fed.drop (i * s.sz)).take s.sz ∧
    (i + 1) * s.sz ≤ fed.length ∧ s'.next = s.next + 1
  eos_short : ∀ n, o.res = .eos n → n = i ∧ i = s.next ∧ s.ended = true ∧ fed.length < (i + 1) * s.sz
  pending : o.res = .pending → i > s.next ∨ (i = s.next ∧ s.ended = false ∧ fed.length < (i + 1) * s.sz)
  wake_ring : ∀ m, o.res = .ok m → ∀ w0 j, s.ring ((s.next + 1) % s.cap) = some (w0, j) →
    j = s.next + 1 ∧ w0 ∈ o.woken
  wake_overflow : ∀ m, o.res = .ok m → (s.next + 1) % (s.cap / 2) = 0 →
    ∀ w j, (w, j) ∈ s.overflow → w ∈ o.woken
  not_none : o.res ≠ .none

theorem drop_take_eq {l m r : List Nat} {k n : Nat} (hk : k ≤ l.length) (h : l.drop k = m ++ r)
    (hm : m.length = n) : (l.drop k).take n = m ∧ l.drop (k + n) = r ∧ k + n ≤ l.length := by
  refine ⟨?_, ?_, ?_⟩
  · rw [h, ← hm, List.take_left']; rfl
  · rw [← List.drop_drop, h, ← hm, List.drop_left']; rfl
  · have := congrArg List.length h
    rw [List.length_drop, List.length_append, hm] at this
    omega

theorem deliver {s : State} {fed : List Nat} (h : RInv s fed) {buf : List Nat} {off : Nat}
    {q : List (List Nat)} {m : List Nat} (hoff : off ≤ buf.length) (hm : m.length = s.sz)
    (hsplit : s.remaining = m ++ (buf.drop off ++ q.flatten)) :
    let r := State.wakeNext { s with spareBuf := buf, spareOff := off, queue := q }
    RInv r.1 fed ∧ r.1.sz = s.sz ∧ r.1.cap = s.cap ∧ r.1.ended = s.ended ∧ r.1.next = s.next + 1 ∧
    RecvOk s r.1 fed s.next ⟨.ok m, r.2⟩ := by
  obtain ⟨w1, w2, w3, w4, w5, w6, w7, w8, w9, w10, w11⟩ :=
    wakeNext_spec { s with spareBuf := buf, spareOff := off, queue := q } h.ring h.ov
  have hfd : fed.drop (s.next * s.sz) = m ++ (buf.drop off ++ q.flatten) := h.rem ▸ hsplit
  obtain ⟨e1, e2, e3⟩ := drop_take_eq h.consumed hfd hm
  have hlen : (s.next + 1) * s.sz ≤ fed.length := Nat.succ_mul _ _ ▸ e3
  refine ⟨⟨by rw [w3]; exact h.hcap, by rw [w4, w5]; exact hoff, ?_, by rw [w1, w2]; exact hlen,
    by rw [w1, w3]; exact w8, by rw [w1, w3]; exact w9⟩, w2, w3, w7, w1, ?_⟩
  · rw [State.remaining, w4, w5, w6, w1, w2, Nat.succ_mul, e2]
  · exact ⟨fun m' hm' => by cases hm'; exact ⟨rfl, e1.symm, hlen, w1⟩, nofun, nofun,
      fun _ _ => w10, fun _ _ h0 w j hm => w11 w j hm h0, nofun⟩

theorem addWaker_inv {s : State} {fed : List Nat} (h : RInv s fed) {i : Nat} (t : Task)
    (hgt : i > s.next) :
    RInv (s.addWaker i t) fed ∧ (s.addWaker i t).sz = s.sz ∧ (s.addWaker i t).cap = s.cap ∧
    (s.addWaker i t).ended = s.ended ∧ (s.addWaker i t).next = s.next := by
  unfold State.addWaker
  by_cases hov : i > s.next + s.cap
  · rw [if_pos hov]
    refine ⟨⟨h.hcap, h.off_le, h.rem, h.consumed, h.ring, ?_⟩, rfl, rfl, rfl, rfl⟩
    intro w j hm
    rcases List.mem_append.mp hm with hm | hm
    · exact h.ov w j hm
    · cases List.mem_singleton.mp hm
      exact Nat.lt_of_le_of_lt (Nat.add_le_add_right (Nat.sub_le _ _) _) hov
  · rw [if_neg hov]
    refine ⟨⟨h.hcap, h.off_le, h.rem, h.consumed, ?_, h.ov⟩, rfl, rfl, rfl, rfl⟩
    intro k w j hk
    replace hk : (if k = i % s.cap then some (t, i) else s.ring k) = some (w, j) := hk
    show j % s.cap = k ∧ s.next < j ∧ j ≤ s.next + s.cap
    by_cases hkk : k = i % s.cap
    · rw [if_pos hkk] at hk
      cases hk
      exact ⟨hkk.symm, hgt, Nat.le_of_not_gt hov⟩
    · rw [if_neg hkk] at hk
      exact h.ring k w j hk

def fedAfter (fed : List Nat) : Op → List Nat
  | .feed c => fed ++ c
  | _ => fed

theorem recv_step {s s' : State} {fed : List Nat} {op : Op} {o : Out} (h : RInv s fed)
    (hs : step s op = .ok (s', o)) :
    RInv s' (fedAfter fed op) ∧ s'.sz = s.sz ∧ s'.cap = s.cap ∧
    s'.ended = (op == .finish || s.ended) ∧
    s'.next = (match o.res with | .ok _ => s.next + 1 | _ => s.next) ∧
    (∀ t i, op = .recv t i → RecvOk s s' fed i o) := by
  cases op with
  | feed c =>
    cases hs
    refine ⟨⟨h.hcap, h.off_le, ?_, ?_, h.ring, h.ov⟩, rfl, rfl, rfl, rfl, nofun⟩
    · have := h.rem
      simp only [State.remaining, fedAfter, List.flatten_append, List.flatten_cons, List.flatten_nil,
        List.append_nil] at this ⊢
      rw [← List.append_assoc, this, List.drop_append_of_le_length h.consumed]
    · exact List.length_append ▸ Nat.le_add_right_of_le h.consumed
  | finish =>
    cases hs
    exact ⟨⟨h.hcap, h.off_le, h.rem, h.consumed, h.ring, h.ov⟩, rfl, rfl, rfl, rfl, nofun⟩
  | recv t i =>
    suffices hp : RInv s' fed ∧ s'.sz = s.sz ∧ s'.cap = s.cap ∧ s'.ended = s.ended ∧
        s'.next = (match o.res with | .ok _ => s.next + 1 | _ => s.next) ∧ RecvOk s s' fed i o from
      ⟨hp.1, hp.2.1, hp.2.2.1, hp.2.2.2.1, hp.2.2.2.2.1, fun _ _ hh => by cases hh; exact hp.2.2.2.2.2⟩
    unfold step at hs
    dsimp only at hs
    by_cases hi : i = s.next
    · subst hi
      rw [if_pos rfl] at hs
      by_cases hread : s.spareOff + s.sz ≤ s.spareBuf.length
      · -- Spare::read succeeds
        rw [if_pos hread] at hs
        cases hs
        have hm : ((s.spareBuf.drop s.spareOff).take s.sz).length = s.sz := by
          rw [List.length_take, List.length_drop]
          exact Nat.min_eq_left (Nat.le_sub_of_add_le' hread)
        exact deliver h (buf := s.spareBuf) (off := s.spareOff + s.sz) (q := s.queue) hread hm
          (by rw [State.remaining, ← List.append_assoc, ← List.drop_drop, List.take_append_drop])
      · rw [if_neg hread] at hs
        have hpre : s.spareBuf.length - s.spareOff < s.sz :=
          Nat.sub_lt_left_of_lt_add h.off_le (Nat.lt_of_not_le hread)
        cases hp : pull s.sz s.spareBuf s.spareOff s.queue with
        | mk buf x =>
          obtain ⟨off, q, r⟩ := x
          rw [hp] at hs
          obtain ⟨p4, pr⟩ := pull_spec s.sz s.queue s.spareBuf s.spareOff h.off_le hpre hp
          cases r with
          | some m =>
            cases hs
            exact deliver h p4 pr.1 pr.2
          | none =>
            -- the stream has no whole message: end of stream or pending
            dsimp only at hs
            obtain ⟨p1, p2, p3⟩ := pr
            have hshort : fed.length < (s.next + 1) * s.sz := by
              have := h.rem; rw [State.remaining] at this
              rw [this, List.length_drop] at p3
              exact Nat.succ_mul _ _ ▸ (Nat.sub_lt_iff_lt_add' h.consumed).mp p3
            have hrem : buf.drop off ++ q.flatten = fed.drop (s.next * s.sz) := p1.trans h.rem
            by_cases hend : s.ended = true
            · rw [if_pos hend] at hs
              cases hs
              exact ⟨⟨h.hcap, p4, hrem, h.consumed, h.ring, h.ov⟩, rfl, rfl, rfl, rfl,
                nofun, fun n hn => by cases hn; exact ⟨rfl, rfl, hend, hshort⟩, nofun, nofun, nofun, nofun⟩
            · rw [if_neg hend] at hs
              cases hs
              exact ⟨⟨h.hcap, p4, hrem, h.consumed, h.ring, h.ov⟩, rfl, rfl, rfl, rfl,
                nofun, nofun, fun _ => .inr ⟨rfl, Bool.eq_false_iff.mpr hend, hshort⟩, nofun, nofun, nofun⟩
    · rw [if_neg hi] at hs
      by_cases hgt : i > s.next
      · rw [if_pos hgt] at hs
        cases hs
        obtain ⟨a, b, c, d, e⟩ := addWaker_inv h t hgt
        exact ⟨a, b, c, d, e, nofun, nofun, fun _ => .inl hgt, nofun, nofun, nofun⟩
      · rw [if_neg hgt] at hs; cases hs

theorem step_error {s : State} {op : Op} {e : String} (hs : step s op = .error e) :
    ∃ t i, op = .recv t i ∧ i < s.next := by
  cases op with
  | feed c => cases hs
  | finish => cases hs
  | recv t i =>
    refine ⟨t, i, rfl, ?_⟩
    unfold step at hs
    dsimp only at hs
    by_cases hi : i = s.next
    · rw [if_pos hi] at hs
      by_cases hread : s.spareOff + s.sz ≤ s.spareBuf.length
      · rw [if_pos hread] at hs; cases hs
      · rw [if_neg hread] at hs
        split at hs
        · cases hs
        · split at hs <;> cases hs
    · rw [if_neg hi] at hs
      by_cases hgt : i > s.next
      · rw [if_pos hgt] at hs; cases hs
      · omega

theorem RInv.init {sz cap : Nat} {s0 : State} (h : State.new sz cap = .ok s0) :
    RInv s0 [] ∧ s0.next = 0 ∧ s0.ended = false ∧ s0.sz = sz ∧ s0.cap = cap := by
  unfold State.new Generated.Buffers.receiverMinCapacity at h
  split at h
  · cases h
  · cases h
    refine ⟨⟨by simp only []; omega, Nat.le_refl _, List.drop_nil.symm, Nat.le_of_eq (Nat.zero_mul _), ?_, ?_⟩, rfl, rfl, rfl, rfl⟩
    · intro k w j hk; cases hk
    · intro w j hm; cases hm

theorem RInv.exec (ops : List Op) : ∀ {s s' : State} {fed : List Nat},
    RInv s fed → UnorderedReceiver.exec s ops = .ok s' → ∃ fed', RInv s' fed' ∧ s'.cap = s.cap := by
  induction ops with
  | nil => intro s s' fed h he; cases he; exact ⟨fed, h, rfl⟩
  | cons op rest ih =>
    intro s s' fed h he
    simp only [UnorderedReceiver.exec] at he
    cases hs : step s op with
    | error e => rw [hs] at he; cases he
    | ok x =>
      obtain ⟨s1, o⟩ := x
      rw [hs] at he
      obtain ⟨hinv', _, hcap, _⟩ := recv_step h hs
      obtain ⟨fed', h', hc'⟩ := ih hinv' he
      exact ⟨fed', h', by rw [hc', hcap]⟩

end IpaVerif.UnorderedReceiver
