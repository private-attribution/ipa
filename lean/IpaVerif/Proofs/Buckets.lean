/-!
Rearrangements of concatenations `l.flatMap f`, and the fact behind every "each record reaches its chosen shard
exactly once" statement (C05 routing, C19 resharding): sorting a list into buckets by a key and concatenating the
buckets is a permutation of the list. Core Lean only.
-/
namespace IpaVerif.Buckets

theorem flatMap_range_congr {α : Type} {n : Nat} {f g : Nat → List α} (h : ∀ s, s < n → f s = g s) :
    (List.range n).flatMap f = (List.range n).flatMap g :=
  congrArg List.flatten (List.map_congr_left fun s hs => h s (List.mem_range.mp hs))

theorem flatMap_perm_congr {ι α : Type} {l : List ι} {f g : ι → List α} (h : ∀ a ∈ l, (f a).Perm (g a)) :
    (l.flatMap f).Perm (l.flatMap g) := by
  induction l with
  | nil => exact .nil
  | cons a l ih =>
    exact (h a List.mem_cons_self).append (ih fun b hb => h b (List.mem_cons_of_mem a hb))

theorem flatMap_append_perm {ι α : Type} (l : List ι) (f g : ι → List α) :
    (l.flatMap fun a => f a ++ g a).Perm (l.flatMap f ++ l.flatMap g) := by
  induction l with
  | nil => exact .nil
  | cons a l ih =>
    simp only [List.flatMap_cons, List.append_assoc]
    exact .append_left _ ((List.Perm.append_left _ ih).trans (List.perm_append_comm_assoc ..))

theorem flatMap_swap_perm {ι κ α : Type} (l : List ι) (m : List κ) (f : ι → κ → List α) :
    (l.flatMap fun a => m.flatMap (f a)).Perm (m.flatMap fun b => l.flatMap fun a => f a b) := by
  induction l with
  | nil => simp
  | cons a l ih =>
    simp only [List.flatMap_cons]
    exact (List.Perm.append_left _ ih).trans (flatMap_append_perm m (f a) _).symm

theorem buckets_perm {α : Type} (key : α → Nat) (arr : Nat → List α → List α) (harr : ∀ d l, (arr d l).Perm l)
    (P : List α) (S : Nat) :
    ((List.range S).flatMap fun d => arr d (P.filter (key · == d))).Perm (P.filter (key · < S)) := by
  induction S with
  | zero => simp
  | succ S ih =>
    rw [List.range_succ, List.flatMap_append, List.flatMap_singleton]
    refine (ih.append (harr S _)).trans ?_
    -- the keys below `S + 1` are those below `S` followed by those equal to `S`
    have h := List.filter_append_perm (key · < S) (P.filter (key · < S + 1))
    simp only [List.filter_filter] at h
    refine .trans (.of_eq ?_) h
    congr 1
    · exact List.filter_congr fun x _ => by rw [Bool.eq_iff_iff]; simp; omega
    · exact List.filter_congr fun x _ => by rw [Bool.eq_iff_iff]; simp; omega

theorem buckets_perm_of_lt {α : Type} (key : α → Nat) (arr : Nat → List α → List α) (harr : ∀ d l, (arr d l).Perm l)
    (P : List α) (S : Nat) (hk : ∀ x ∈ P, key x < S) :
    ((List.range S).flatMap fun d => arr d (P.filter (key · == d))).Perm P := by
  have h := buckets_perm key arr harr P S
  rwa [List.filter_eq_self.mpr fun x hx => by simpa using hk x hx] at h

end IpaVerif.Buckets
