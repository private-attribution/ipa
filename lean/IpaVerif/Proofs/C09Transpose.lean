import IpaVerif.Model.Transpose
import IpaVerif.Proofs.C09Bytes
/-! C09, bit-matrix transposition: the two kernels are bit permutations whose composed routing table is
the transposition (checked by `decide` on the masks regenerated from the source), lifted to bytes, to the
tiling drivers for every shape, and to the involution property. -/
namespace IpaVerif.C09
open IpaVerif.Util IpaVerif.Transpose IpaVerif.Generated.Transpose

def exactlyOne (a b c : Bool) : Bool := (a && !b && !c) || (!a && b && !c) || (!a && !b && c)

theorem or_and_of_exactlyOne (a b c x y z : Bool) (h : exactlyOne a b c = true) :
    ((x && a) || (y && b) || (z && c)) = if a then x else if b then y else z := by
  revert a b c x y z
  decide +kernel

theorem or_and_of_xor (a b x y : Bool) (h : (a != b) = true) : ((x && a) || (y && b)) = if a then x else y := by
  revert a b x y
  decide +kernel

theorem getLsbD_shl (x : W) (s k : Nat) (hk : k < 64) :
    (x <<< s).getLsbD k = (decide (s ≤ k) && x.getLsbD (k - s)) := by
  simp only [BitVec.getLsbD_shiftLeft, hk, decide_true, Bool.true_and, ← decide_not, Nat.not_lt]

theorem ds_bit (M m x : W) (s k : Nat) (hk : k < 64) :
    (ds M m s x).getLsbD k =
      ((x.getLsbD k && M.getLsbD k) || (x.getLsbD (k - s) && (decide (s ≤ k) && m.getLsbD (k - s)))
        || (x.getLsbD (k + s) && m.getLsbD k)) := by
  simp only [ds, BitVec.getLsbD_or, BitVec.getLsbD_and, getLsbD_shl _ _ _ hk, BitVec.getLsbD_ushiftRight,
    Nat.add_comm s k, Bool.and_left_comm]

/-- where bit `k` of `ds M m s x` comes from -/
def dsRoute (M m : W) (s k : Nat) : Nat :=
  if M.getLsbD k then k else if decide (s ≤ k) && m.getLsbD (k - s) then k - s else k + s

/-- exactly one of the three terms of `ds` contributes to bit `k` -/
def dsOk (M m : W) (s k : Nat) : Bool :=
  exactlyOne (M.getLsbD k) (decide (s ≤ k) && m.getLsbD (k - s)) (m.getLsbD k)

theorem ds_route (M m x : W) (s k : Nat) (hk : k < 64) (h : dsOk M m s k = true) :
    (ds M m s x).getLsbD k = x.getLsbD (dsRoute M m s k) := by
  rw [ds_bit M m x s k hk, or_and_of_exactlyOne _ _ _ _ _ _ h, dsRoute, apply_ite x.getLsbD, apply_ite x.getLsbD]

abbrev Stage := Nat × Nat × Nat

def stagesRoute : List Stage → Nat → Nat
  | [], k => k
  | t :: ts, k => dsRoute (BitVec.ofNat 64 t.1) (BitVec.ofNat 64 t.2.1) t.2.2 (stagesRoute ts k)

def stagesOk : List Stage → Nat → Bool
  | [], _ => true
  | t :: ts, k => stagesOk ts k && decide (stagesRoute ts k < 64) &&
      dsOk (BitVec.ofNat 64 t.1) (BitVec.ofNat 64 t.2.1) t.2.2 (stagesRoute ts k)

theorem stages_route (st : List Stage) (x : W) (k : Nat) (h : stagesOk st k = true) :
    (dsStages st x).getLsbD k = x.getLsbD (stagesRoute st k) := by
  induction st generalizing x with
  | nil => rfl
  | cons t ts ih =>
    simp only [stagesOk, Bool.and_eq_true, decide_eq_true_eq] at h
    obtain ⟨⟨h1, h2⟩, h3⟩ := h
    show (dsStages ts (ds _ _ _ x)).getLsbD k = _
    rw [ih _ h1, ds_route _ _ _ _ _ h2 h3, stagesRoute]

theorem transposed_index (N r c : Nat) (hc : c < N) : N * ((N * r + c) % N) + (N * r + c) / N = N * c + r := by
  rw [Nat.mul_add_mod, Nat.mod_eq_of_lt hc, Nat.mul_add_div (Nat.zero_lt_of_lt hc), Nat.div_eq_of_lt hc, Nat.add_zero]

/-- row-major index of cell (r, c) of an `M × N` grid -/
theorem index_lt {N M r c : Nat} (hr : r < M) (hc : c < N) : N * r + c < N * M :=
  Nat.lt_of_lt_of_le (Nat.add_lt_add_left hc _) (Nat.mul_succ N r ▸ Nat.mul_le_mul_left N hr)

theorem t8_table : ∀ k, k < 64 → stagesOk t8Stages k = true ∧ stagesRoute t8Stages k = 8 * (k % 8) + k / 8 := by
  decide +kernel

/-- The `u64` kernel of `transpose_8x8`: output bit (r, c) is input bit (c, r), for every 64-bit input. -/
theorem t8_kernel (x : W) (r c : Nat) (hr : r < 8) (hc : c < 8) :
    (t8 x).getLsbD (8 * r + c) = x.getLsbD (8 * c + r) := by
  obtain ⟨h1, h2⟩ := t8_table (8 * r + c) (index_lt hr hc)
  rw [t8, stages_route _ _ _ h1, h2, transposed_index 8 r c hc]

def bit256 (y : W4) (n : Nat) : Bool := (y ⟨n / 64 % 4, Nat.mod_lt _ (Nat.succ_pos _)⟩).getLsbD (n % 64)

theorem bit256_eq (y : W4) (n : Nat) : bit256 y n = (y (wOf n)).getLsbD (n % 64) := rfl

theorem bit256_mk (y : W4) (w : Fin 4) (k : Nat) (hk : k < 64) :
    bit256 y (64 * w.val + k) = (y w).getLsbD k := by
  have hw : wOf (64 * w.val + k) = w := Fin.ext <| by
    simp only [wOf, Nat.mul_add_div (show 64 > 0 by decide), Nat.div_eq_of_lt hk, Nat.add_zero, Nat.mod_eq_of_lt w.isLt]
  rw [bit256_eq, hw, Nat.mul_add_mod, Nat.mod_eq_of_lt hk]

theorem ite_getLsbD_eq_bit256 (y : W4) (a : Bool) (w : Fin 4) (k n' : Nat) (X : Bool) (hk : k < 64)
    (h : a = false → X = bit256 y n') :
    (if a then (y w).getLsbD k else X) = bit256 y (if a then 64 * w.val + k else n') := by
  cases a
  · exact h rfl
  · exact (bit256_mk y w k hk).symm

def st01 : List Stage := [(t16M0, t16m0, t16s0), (t16M1, t16m1, t16s1)]

def route1 (n : Nat) : Nat := 64 * (wOf n).val + stagesRoute st01 (n % 64)
def ok1 (n : Nat) : Bool := stagesOk st01 (n % 64) && decide (stagesRoute st01 (n % 64) < 64)

theorem y1_route (x : W4) (n : Nat) (h : ok1 n = true) : bit256 (t16y1 x) n = bit256 x (route1 n) := by
  simp only [ok1, Bool.and_eq_true, decide_eq_true_eq] at h
  rw [route1, bit256_mk _ _ _ h.2, bit256_eq]
  -- `t16y1 x w` is `dsStages st01 (x w)` by definition
  exact stages_route st01 (x (wOf n)) _ h.1

theorem mix2_bit (A B C p q : W) (s k : Nat) (hk : k < 64) :
    (mix2 A B C s p q).getLsbD k =
      ((p.getLsbD k && A.getLsbD k) || (q.getLsbD (k - s) && (decide (s ≤ k) && B.getLsbD k))
        || (q.getLsbD (k + s) && C.getLsbD (k + s))) := by
  simp only [mix2, BitVec.getLsbD_or, BitVec.getLsbD_and, getLsbD_shl _ _ _ hk, BitVec.getLsbD_ushiftRight,
    Nat.add_comm s k, Bool.and_left_comm, Bool.and_assoc]

def route2 (n : Nat) : Nat :=
  let w := wOf n
  let k := n % 64
  if (listW t16m2a w).getLsbD k then 64 * w.val + k
  else if decide (t16s2 ≤ k) && (listW t16m2b w).getLsbD k then 64 * (swpIdx w).val + (k - t16s2)
  else 64 * (swpIdx w).val + (k + t16s2)

/-- exactly one term of `mix2` contributes to bit `n`, and the source bit of the right-shift term lies inside the word -/
def ok2 (n : Nat) : Bool :=
  let w := wOf n
  let k := n % 64
  exactlyOne ((listW t16m2a w).getLsbD k) (decide (t16s2 ≤ k) && (listW t16m2b w).getLsbD k)
    ((listW t16m2c w).getLsbD (k + t16s2)) && decide (k + t16s2 < 64 ∨ (listW t16m2c w).getLsbD (k + t16s2) = false)

theorem y2_route (y : W4) (n : Nat) (h : ok2 n = true) : bit256 (t16y2 y) n = bit256 y (route2 n) := by
  simp only [ok2, Bool.and_eq_true, decide_eq_true_eq] at h
  obtain ⟨h1, h2⟩ := h
  have hk : n % 64 < 64 := Nat.mod_lt _ (Nat.succ_pos _)
  rw [bit256_eq, t16y2, mix2_bit _ _ _ _ _ _ _ hk, or_and_of_exactlyOne _ _ _ _ _ _ h1]
  refine ite_getLsbD_eq_bit256 _ _ _ _ _ _ hk fun ha => ite_getLsbD_eq_bit256 _ _ _ _ _ _ (Nat.lt_of_le_of_lt (Nat.sub_le _ _) hk) fun hb => ?_
  -- both other selectors are off, so the third is on (`exactlyOne`) and its source bit lies inside the word
  rw [ha, hb] at h1
  exact (bit256_mk _ _ _ (h2.resolve_right fun hc => nomatch h1.symm.trans hc)).symm

theorem lo3_bit (L p q : W) (s k : Nat) (hk : k < 64) :
    (lo3 L s p q).getLsbD k =
      ((p.getLsbD k && L.getLsbD k) || (q.getLsbD (k - s) && (decide (s ≤ k) && L.getLsbD (k - s)))) := by
  simp only [lo3, BitVec.getLsbD_or, BitVec.getLsbD_and, getLsbD_shl _ _ _ hk, Bool.and_left_comm]

theorem hi3_bit (H p q : W) (s k : Nat) :
    (hi3 H s p q).getLsbD k =
      ((q.getLsbD k && H.getLsbD k) || (p.getLsbD (k + s) && H.getLsbD (k + s))) := by
  simp only [hi3, BitVec.getLsbD_or, BitVec.getLsbD_and, BitVec.getLsbD_ushiftRight, Nat.add_comm s k, Bool.or_comm]

def route3 (n : Nat) : Nat :=
  let w := wOf n
  let k := n % 64
  if w.val < 2 then
    if (BitVec.ofNat 64 t16L).getLsbD k then 64 * w.val + k else 64 * (w + 2).val + (k - t16s3)
  else
    if (BitVec.ofNat 64 t16H).getLsbD k then 64 * w.val + k else 64 * (w + 2).val + (k + t16s3)

/-- as `ok2`, for `lo3` (words 0, 1) and `hi3` (words 2, 3) -/
def ok3 (n : Nat) : Bool :=
  let w := wOf n
  let k := n % 64
  if w.val < 2 then
    ((BitVec.ofNat 64 t16L).getLsbD k != (decide (t16s3 ≤ k) && (BitVec.ofNat 64 t16L).getLsbD (k - t16s3)))
  else
    ((BitVec.ofNat 64 t16H).getLsbD k != (BitVec.ofNat 64 t16H).getLsbD (k + t16s3)) &&
      decide (k + t16s3 < 64 ∨ (BitVec.ofNat 64 t16H).getLsbD k = true)

theorem y3_route (y : W4) (n : Nat) (h : ok3 n = true) : bit256 (t16y3 y) n = bit256 y (route3 n) := by
  have hk : n % 64 < 64 := Nat.mod_lt _ (Nat.succ_pos _)
  simp only [ok3] at h
  simp only [route3]
  rw [bit256_eq, t16y3]
  by_cases hw : (wOf n).val < 2
  · rw [if_pos hw] at h ⊢
    rw [if_pos hw, lo3_bit _ _ _ _ _ hk, or_and_of_xor _ _ _ _ h]
    exact ite_getLsbD_eq_bit256 _ _ _ _ _ _ hk fun _ => (bit256_mk _ _ _ (Nat.lt_of_le_of_lt (Nat.sub_le _ _) hk)).symm
  · rw [if_neg hw, Bool.and_eq_true, decide_eq_true_eq] at h
    rw [if_neg hw, if_neg hw, hi3_bit, or_and_of_xor _ _ _ _ h.1]
    exact ite_getLsbD_eq_bit256 _ _ _ _ _ _ hk fun hH => (bit256_mk _ _ _ (h.2.resolve_right (Bool.eq_false_iff.1 hH))).symm

theorem t16_table : ∀ n, n < 256 →
    ok3 n = true ∧ ok2 (route3 n) = true ∧ ok1 (route2 (route3 n)) = true ∧
      route1 (route2 (route3 n)) = 16 * (n % 16) + n / 16 := by
  decide +kernel

/-- The `[u64; 4]` kernel of `transpose_16x16`: output bit (r, c) is input bit (c, r), for every input. -/
theorem t16_kernel (x : W4) (r c : Nat) (hr : r < 16) (hc : c < 16) :
    bit256 (t16 x) (16 * r + c) = bit256 x (16 * c + r) := by
  obtain ⟨h3, h2, h1, hr'⟩ := t16_table (16 * r + c) (index_lt hr hc)
  rw [t16, y3_route _ _ h3, y2_route _ _ h2, y1_route _ _ h1, hr', transposed_index 16 r c hc]

/-- `u64::from_le_bytes` of the first eight bytes -/
theorem load64_bit (t : List Nat) (hb : Bytes t) (n : Nat) (hn : n < 64) :
    (BitVec.ofNat 64 (ofLeBytes (t.take 8))).getLsbD n = bitOf t n := by
  rw [BitVec.getLsbD_ofNat, decide_eq_true hn, Bool.true_and, testBit_ofLeBytes _ (Bytes_take 8 hb),
    bitOf_take _ _ _ hn]

/-- `u64::to_le_bytes` -/
theorem store64_bit (x : W) (n : Nat) (hn : n < 64) : bitOf (leBytes x.toNat 8) n = x.getLsbD n := by
  rw [bitOf_leBytes _ _ _ hn, BitVec.testBit_toNat]

theorem transpose8x8_bit (t : List Nat) (hb : Bytes t) (r c : Nat) (hr : r < 8) (hc : c < 8) :
    bitOf (transpose8x8 t) (8 * r + c) = bitOf t (8 * c + r) := by
  rw [transpose8x8, store64_bit _ _ (index_lt hr hc), t8_kernel _ _ _ hr hc, load64_bit _ hb _ (index_lt hc hr)]

theorem bit256_load (t : List Nat) (hb : Bytes t) (n : Nat) (hn : n < 256) :
    bit256 (fun i : Fin 4 => BitVec.ofNat 64 (ofLeBytes ((t.drop (8 * i.val)).take 8))) n = bitOf t n := by
  have hw : (wOf n).val = n / 64 := Nat.mod_eq_of_lt (Nat.div_lt_of_lt_mul hn)
  rw [bit256_eq, load64_bit _ (Bytes_drop _ hb) _ (Nat.mod_lt _ (Nat.succ_pos _)), bitOf_drop, hw, ← Nat.mul_assoc,
    Nat.div_add_mod]

theorem transpose16x16_bitOf (t : List Nat) (n : Nat) (hn : n < 256) :
    bitOf (transpose16x16 t) n
      = bit256 (t16 fun i : Fin 4 => BitVec.ofNat 64 (ofLeBytes ((t.drop (8 * i.val)).take 8))) n := by
  have hw : wOf (8 * (n / 8)) = wOf n := by
    simp only [wOf, show 64 = 8 * 8 from rfl, Nat.mul_div_mul_left _ _ (show 0 < 8 by decide), Nat.div_div_eq_div_mul]
  have hk : 8 * (n / 8 % 8) + n % 8 = n % 64 := (Nat.add_comm _ _).trans (Nat.mod_mul (a := 8) (b := 8)).symm
  rw [transpose16x16, bitOf, getD_map_range _ _ _ _ (Nat.div_lt_of_lt_mul hn),
    getD_fin4 fun i => leBytes (t16 _ i).toNat 8,
    ← bitOf_mk _ _ _ (Nat.mod_lt _ (Nat.succ_pos _)), hk, store64_bit _ _ (Nat.mod_lt _ (Nat.succ_pos _)), hw, ← bit256_eq]

theorem transpose16x16_bit (t : List Nat) (hb : Bytes t) (r c : Nat) (hr : r < 16) (hc : c < 16) :
    bitOf (transpose16x16 t) (16 * r + c) = bitOf t (16 * c + r) := by
  rw [transpose16x16_bitOf _ _ (index_lt hr hc), t16_kernel _ _ _ hr hc, bit256_load _ hb _ (index_lt hc hr)]

def RowsBytes (m : Rows) : Prop := ∀ row ∈ m, Bytes row

theorem getByte_lt (m : Rows) (h : RowsBytes m) (r j : Nat) : getByte m r j < 256 :=
  getD_lt (getD_of_forall (P := Bytes) _ _ _ h Bytes_nil) _

theorem bitAt_mk (m : Rows) (r j b : Nat) (hb : b < 8) : bitAt m r (8 * j + b) = (getByte m r j).testBit b :=
  bitOf_mk _ _ _ hb

theorem tile_lookup (f : Nat → Nat → List Nat) (ti tj i j : Nat) (hi : i < ti) (hj : j < tj) :
    (((List.range (ti * tj)).map (fun t => f (t / tj) (t % tj))).toArray[i * tj + j]?.getD []) = f i j := by
  rw [Nat.mul_comm i tj, List.getElem?_toArray, List.getElem?_map,
    List.getElem?_range (Nat.mul_comm ti tj ▸ index_lt hi hj), Option.map_some, Option.getD_some, Nat.mul_add_div (Nat.zero_lt_of_lt hj), Nat.div_eq_of_lt hj, Nat.add_zero, Nat.mul_add_mod,
    Nat.mod_eq_of_lt hj]

theorem tile8_bytes (m : Rows) (h : RowsBytes m) (i j : Nat) : Bytes (tile8 m i j) :=
  List.forall_mem_map.2 fun _ _ => getByte_lt m h _ _

theorem tile8_bit (m : Rows) (i j k b : Nat) (hk : k < 8) (hb : b < 8) :
    bitOf (tile8 m i j) (8 * k + b) = bitAt m (8 * i + k) (8 * j + b) := by
  rw [bitOf_mk _ _ _ hb, tile8, getD_map_range _ _ _ _ hk, bitAt_mk _ _ _ _ hb]

theorem tiled8_bit (m : Rows) (ti tj r c : Nat) (hr : r < 8 * tj) (hc : c < 8 * ti) :
    bitAt (tiled8 m ti tj) r c = bitOf (transpose8x8 (tile8 m (c / 8) (r / 8))) (8 * (r % 8) + c % 8) := by
  have hi : c / 8 < ti := Nat.div_lt_of_lt_mul hc
  rw [bitOf_mk _ _ _ (Nat.mod_lt _ (Nat.succ_pos _)), bitAt, getByte, tiled8,
    getD_map_range _ _ _ _ hr, getD_map_range _ _ _ _ hi,
    tile_lookup (fun i j => transpose8x8 (tile8 m i j)) ti tj (c / 8) (r / 8) hi (Nat.div_lt_of_lt_mul hr)]

/-- The tiled 8x8 transpose, for every number of tiles: destination bit (r, c) is source bit (c, r). (`impl_transpose_8!`: `ti = rows/8`, `tj = cols/8`; `impl_transpose_8_pad!`: `⌈·/8⌉`, source
rows beyond the end reading as zero.) -/
theorem tiled8_eq_ref (m : Rows) (hm : RowsBytes m) (ti tj r c : Nat) (hr : r < 8 * tj) (hc : c < 8 * ti) :
    bitAt (tiled8 m ti tj) r c = bitAt m c r := by
  rw [tiled8_bit m ti tj r c hr hc,
    transpose8x8_bit _ (tile8_bytes m hm _ _) _ _ (Nat.mod_lt _ (Nat.succ_pos _)) (Nat.mod_lt _ (Nat.succ_pos _)),
    tile8_bit _ _ _ _ _ (Nat.mod_lt _ (Nat.succ_pos _)) (Nat.mod_lt _ (Nat.succ_pos _)), Nat.div_add_mod, Nat.div_add_mod]

theorem tile16_len (m : Rows) (i j : Nat) : (tile16 m i j).length = 32 := by simp [tile16]

theorem tile16_bytes (m : Rows) (h : RowsBytes m) (i j : Nat) : Bytes (tile16 m i j) :=
  List.forall_mem_map.2 fun _ _ => getByte_lt m h _ _

theorem index16_eq_byte_bit (k q e : Nat) : 16 * k + (8 * q + e) = 8 * (2 * k + q) + e := by
  rw [Nat.mul_add, ← Nat.mul_assoc, Nat.add_assoc]

theorem tile16_bit (m : Rows) (i j k l : Nat) (hk : k < 16) (hl : l < 16) :
    bitOf (tile16 m i j) (16 * k + l) = bitAt m (16 * i + k) (16 * j + l) := by
  have he : l % 8 < 8 := Nat.mod_lt _ (Nat.succ_pos _)
  have hq : l / 8 < 2 := Nat.div_lt_of_lt_mul hl
  rw [← Nat.div_add_mod l 8, index16_eq_byte_bit, index16_eq_byte_bit, bitOf_mk _ _ _ he, bitAt_mk _ _ _ _ he, tile16,
    getD_map_range _ _ _ _ (index_lt hk hq), Nat.mul_add_div (by decide), Nat.div_eq_of_lt hq, Nat.add_zero,
    Nat.mul_add_mod, Nat.mod_eq_of_lt hq]

theorem tiled16_bit (m : Rows) (ti tj r c : Nat) (hr : r < 16 * tj) (hc : c < 16 * ti) :
    bitAt (tiled16 m ti tj) r c
      = bitOf (transpose16x16 (tile16 m (c / 16) (r / 16))) (16 * (r % 16) + c % 16) := by
  have hj : r / 16 < tj := Nat.div_lt_of_lt_mul hr
  have hb : c / 8 < 2 * ti := Nat.div_lt_of_lt_mul (Nat.mul_assoc 8 2 ti ▸ hc)
  have hi : c / 8 / 2 < ti := Nat.div_lt_of_lt_mul hb
  have hk : c % 16 = 8 * (c / 8 % 2) + c % 8 := (Nat.mod_mul (a := 8) (b := 2)).trans (Nat.add_comm _ _)
  rw [← Nat.div_div_eq_div_mul c 8 2, hk, index16_eq_byte_bit, bitOf_mk _ _ _ (Nat.mod_lt _ (Nat.succ_pos _)), bitAt, getByte, tiled16,
    getD_map_range _ _ _ _ hr, getD_map_range _ _ _ _ hb,
    tile_lookup (fun i j => transpose16x16 (tile16 m i j)) ti tj (c / 8 / 2) (r / 16) hi hj]

/-- The tiled 16x16 transpose (`impl_transpose_16!`, `do_transpose_16`), any number of tiles: destination bit (r, c) is
source bit (c, r). -/
theorem tiled16_eq_ref (m : Rows) (hm : RowsBytes m) (ti tj r c : Nat) (hr : r < 16 * tj) (hc : c < 16 * ti) :
    bitAt (tiled16 m ti tj) r c = bitAt m c r := by
  rw [tiled16_bit m ti tj r c hr hc,
    transpose16x16_bit _ (tile16_bytes m hm _ _) _ _ (Nat.mod_lt _ (Nat.succ_pos _)) (Nat.mod_lt _ (Nat.succ_pos _)),
    tile16_bit _ _ _ _ _ (Nat.mod_lt _ (Nat.succ_pos _)) (Nat.mod_lt _ (Nat.succ_pos _)), Nat.div_add_mod, Nat.div_add_mod]

/-- Shapes on which the kernel selected by the macro is defined (`debug_assert!`s of the drivers). -/
def ShapeOk (kernel rows cols : Nat) : Prop :=
  (kernel = 16 ∧ rows % 16 = 0 ∧ cols % 16 = 0) ∨ (kernel = 8 ∧ rows % 8 = 0 ∧ cols % 8 = 0) ∨ kernel = 0

instance (k r c : Nat) : Decidable (ShapeOk k r c) := by unfold ShapeOk; exact inferInstance

theorem bitAt_take (m : Rows) (n r c : Nat) (hr : r < n) : bitAt (m.take n) r c = bitAt m r c := by
  simp only [bitAt, getByte, List.getD_eq_getElem?_getD, List.getElem?_take, hr, if_true]

/-- whole tiles cover a shape that is a multiple of the tile -/
theorem lt_tiles {k n r : Nat} (h : n % k = 0) (hr : r < n) : r < k * (n / k) :=
  (Nat.mul_div_cancel' (Nat.dvd_of_mod_eq_zero h)).symm ▸ hr

/-- `⌈n/8⌉` tiles of 8 cover any shape -/
theorem lt_tiles_pad {n r : Nat} (hr : r < n) : r < 8 * ((n + 7) / 8) := by omega

/-- **Every supported transpose equals the reference** `refT m i j = m j i`: for each kernel and all
`rows`, `cols` that are multiples of the tile — and arbitrary `rows`, `cols` for the padded variant,
where source rows `≥ rows` do not exist and read as zero. -/
theorem transpose_eq_ref (kernel rows cols : Nat) (h : ShapeOk kernel rows cols) (m : Rows) (hm : RowsBytes m)
    (r c : Nat) (hr : r < cols) (hc : c < rows) :
    bitAt (transposeImpl kernel rows cols m) r c = bitAt m c r := by
  unfold transposeImpl
  rcases h with ⟨rfl, h1, h2⟩ | ⟨rfl, h1, h2⟩ | rfl
  · rw [if_pos rfl]
    exact tiled16_eq_ref m hm _ _ r c (lt_tiles h2 hr) (lt_tiles h1 hc)
  · rw [if_neg (by decide), if_pos rfl]
    exact tiled8_eq_ref m hm _ _ r c (lt_tiles h2 hr) (lt_tiles h1 hc)
  · rw [if_neg (by decide), if_neg (by decide), bitAt_take _ _ _ _ hr]
    exact tiled8_eq_ref m hm _ _ r c (lt_tiles_pad hr) (lt_tiles_pad hc)

/-- Padded variant: destination columns `rows ≤ c < 8⌈rows/8⌉` are zero when the source has exactly `rows` rows
(they are the padding bits of the destination `AdditiveShare<Boolean, rows>`). -/
theorem padded_transpose_zero_fill (rows cols : Nat) (m : Rows) (hm : RowsBytes m) (hlen : m.length = rows)
    (r c : Nat) (hr : r < cols) (hc1 : rows ≤ c) (hc2 : c < 8 * ((rows + 7) / 8)) :
    bitAt (transposeImpl 0 rows cols m) r c = false := by
  have hrow : m.getD c [] = [] := by
    rw [List.getD_eq_getElem?_getD, List.getElem?_eq_none (hlen ▸ hc1), Option.getD_none]
  rw [transposeImpl, if_neg (by decide), if_neg (by decide), bitAt_take _ _ _ _ hr,
    tiled8_eq_ref m hm _ _ r c (lt_tiles_pad hr) hc2, bitAt, getByte, hrow, List.getD_nil, Nat.zero_testBit]

theorem rowsBytes_table (a b : Nat) (g : Nat → Nat → List Nat) (idx : Nat → Nat → Nat) (hg : ∀ r i, Bytes (g r i)) :
    RowsBytes ((List.range a).map fun r => (List.range b).map fun i => (g r i).getD (idx r i) 0) :=
  List.forall_mem_map.2 fun _ _ => List.forall_mem_map.2 fun _ _ => getD_lt (hg _ _) _

theorem tile_table_bytes (f : Nat → List Nat) (hf : ∀ t, Bytes (f t)) (n k : Nat) :
    Bytes (((List.range n).map f).toArray[k]?.getD []) := by
  rw [List.getElem?_toArray, ← List.getD_eq_getElem?_getD]
  exact getD_of_forall (P := Bytes) _ _ _ (List.forall_mem_map.2 fun _ _ => hf _) Bytes_nil

theorem transpose16x16_bytes (t : List Nat) : Bytes (transpose16x16 t) :=
  List.forall_mem_map.2 fun _ _ => by
    rw [getD_fin4 fun i => leBytes (t16 _ i).toNat 8]; exact getD_lt (leBytes_bytes _ _) _

theorem rowsBytes_transposeImpl (kernel rows cols : Nat) (m : Rows) : RowsBytes (transposeImpl kernel rows cols m) := by
  have t8b : ∀ a b, RowsBytes (tiled8 m a b) := fun a b =>
    rowsBytes_table _ _ _ _ fun _ _ => tile_table_bytes _ (fun _ => leBytes_bytes _ _) _ _
  unfold transposeImpl
  by_cases h16 : kernel = 16
  · rw [if_pos h16]
    exact rowsBytes_table _ _ _ _ fun _ _ => tile_table_bytes _ (fun _ => transpose16x16_bytes _) _ _
  · by_cases h8 : kernel = 8
    · rw [if_neg h16, if_pos h8]
      exact t8b _ _
    · rw [if_neg h16, if_neg h8]
      exact fun row hrow => t8b _ _ row (List.mem_of_mem_take hrow)

/-- Transposition is a lossless inverse of itself: transposing a `rows × cols` matrix with any
supported kernel and the result back with any supported kernel returns every bit of the original. -/
theorem transpose_involutive (k1 k2 rows cols : Nat) (h1 : ShapeOk k1 rows cols) (h2 : ShapeOk k2 cols rows)
    (m : Rows) (hm : RowsBytes m) (r c : Nat) (hr : r < rows) (hc : c < cols) :
    bitAt (transposeImpl k2 cols rows (transposeImpl k1 rows cols m)) r c = bitAt m r c := by
  rw [transpose_eq_ref k2 cols rows h2 _ (rowsBytes_transposeImpl _ _ _ _) r c hr hc,
    transpose_eq_ref k1 rows cols h1 m hm c r hc hr]

/-- Every extracted `impl_transpose_*!` invocation uses its kernel on a shape the kernel supports. -/
theorem generated_impls_shape_ok : ∀ e ∈ impls, ShapeOk e.2.2.2 e.2.1 e.2.2.1 := by decide +kernel

end IpaVerif.C09
