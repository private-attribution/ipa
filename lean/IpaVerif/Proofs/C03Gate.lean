import IpaVerif.Model.Dzkp
/-!
Single-gate analysis for C03 `gate_views`, for **every** gate state (all shares of x, y and the PRSS masks).
A helper's check on a prover reads three records: the prover's own and those of its two verifiers. Honestly the
check passes; a passing check on any records fails after one recorded bit is flipped iff that bit enters it; the
deviating helper `j` is left verifier, prover and right verifier of the provers checked by `j`, `j − 1` and `j + 1`.
-/
namespace IpaVerif.C03
open IpaVerif.Dzkp

theorem next_prev (i : Hid) : i.prev.next = i := by cases i <;> rfl
theorem prev_next (i : Hid) : i.next.prev = i := by cases i <;> rfl
theorem next_next (i : Hid) : i.next.next = i.prev := by cases i <;> rfl
theorem prev_prev (i : Hid) : i.prev.prev = i.next := by cases i <;> rfl
theorem same_iff (h a : Hid) : h.same a = true ↔ h = a := by cases h <;> cases a <;> simp [Hid.same]
theorem next_same (i : Hid) : i.next.same i = false := by cases i <;> rfl
theorem prev_same (i : Hid) : i.prev.same i = false := by cases i <;> rfl

theorem hid_mem_iff (h : Hid) (l : List Hid) : Hid.mem h l = true ↔ h ∈ l := by
  induction l with
  | nil => simp [Hid.mem]
  | cons a r ih => simp [Hid.mem, ih, same_iff]

theorem eq3_iff (s t : Bool × Bool × Bool) : eq3 s t = true ↔ s = t := by
  obtain ⟨a, b, c⟩ := s
  obtain ⟨a', b', c'⟩ := t
  revert a b c a' b' c'
  decide

/-- `proverMatches vw i` is `proverCheck (vw i.prev) (vw i) (vw i.next)`. -/
def proverCheck (l m r : View) : Bool := eq3 (proverU m) (leftVerifierU l) && eq3 (proverV m) (rightVerifierV r)

theorem rejects_eq (vw : Hid → View) (h : Hid) : rejects vw h = !proverCheck (vw h) (vw h.next) (vw h.prev) := by
  rw [rejects, proverMatches, prev_next, next_next]; rfl

theorem proverCheck_honest (g : Gate) (i : Hid) :
    proverCheck (honestView g i.prev) (honestView g i) (honestView g i.next) = true ∧
      verifierTripleConsistent (honestView g) i = true := by
  simp only [proverCheck, verifierTripleConsistent, honestView, proverU, proverV, leftVerifierU, rightVerifierV, zOf,
    next_prev, eq3]
  generalize g.x i = x; generalize g.x i.next = x'; generalize g.y i = y; generalize g.y i.next = y'
  generalize g.p i = p; generalize g.p i.next = p'
  revert x x' y y' p p'; decide

theorem honest_views_accept (g : Gate) (i : Hid) :
    proverMatches (views g none) i = true ∧ verifierTripleConsistent (views g none) i = true ∧
      rejects (views g none) i = false := by
  refine ⟨(proverCheck_honest g i).1, (proverCheck_honest g i).2, ?_⟩
  have := (proverCheck_honest g i.next).1
  rw [prev_next, next_next] at this
  rw [rejects_eq]
  exact (congrArg not this).trans rfl

def inLeftU : Flip → Bool | .xr | .yr | .pr | .zr => true | _ => false
def inProver : Flip → Bool | .xl | .yl | .xr | .yr | .pr => true | _ => false
def inRightV : Flip → Bool | .xl | .yl | .pl => true | _ => false

/-- a flipped bit changes the component of the triple that holds it, whatever it does to the `e` component. -/
theorem proverCheck_flip {l m r : View} (hc : proverCheck l m r = true) (f : Flip) :
    proverCheck (flipView l f) m r = !inLeftU f ∧ proverCheck l (flipView m f) r = !inProver f ∧
      proverCheck l m (flipView r f) = !inRightV f := by
  simp only [proverCheck, Bool.and_eq_true, eq3_iff] at hc
  obtain ⟨hu, hv⟩ := hc
  obtain ⟨lxl, lxr, lyl, lyr, lpl, lpr, lzr⟩ := l
  obtain ⟨mxl, mxr, myl, myr, mpl, mpr, mzr⟩ := m
  obtain ⟨rxl, rxr, ryl, ryr, rpl, rpr, rzr⟩ := r
  simp only [proverU, proverV, leftVerifierU, rightVerifierV, Prod.mk.injEq] at hu hv
  obtain ⟨rfl, rfl, hu⟩ := hu
  obtain ⟨rfl, rfl, rfl⟩ := hv
  cases f <;>
    simp [proverCheck, eq3, flipView, proverU, proverV, leftVerifierU, rightVerifierV, inLeftU, inProver, inRightV, hu]

theorem views_flip (g : Gate) (j : Hid) (f : Flip) (hf : f ≠ .sentZ) (i : Hid) :
    views g (some (j, f)) i = if i.same j then flipView (honestView g i) f else honestView g i := by
  cases f <;> first | rfl | exact absurd rfl hf

theorem views_sentZ (g : Gate) (j : Hid) : views g (some (j, .sentZ)) = views g (some (j.prev, .zr)) := by
  funext i; cases i <;> cases j <;> rfl

theorem rejects_flip (g : Gate) (j : Hid) (f : Flip) (hf : f ≠ .sentZ) :
    rejects (views g (some (j, f))) j = inLeftU f ∧ rejects (views g (some (j, f))) j.prev = inProver f ∧
      rejects (views g (some (j, f))) j.next = inRightV f := by
  have h0 := proverCheck_flip (proverCheck_honest g j).1 f
  have h1 := proverCheck_flip (proverCheck_honest g j.next).1 f
  have h2 := proverCheck_flip (proverCheck_honest g j.prev).1 f
  simp only [prev_next, next_next, next_prev, prev_prev] at h1 h2
  simp only [rejects_eq, views_flip g j f hf, prev_next, next_next, next_prev, prev_prev, (same_iff j j).2 rfl, next_same,
    prev_same, if_true, Bool.false_eq_true, if_false, h1.1, h0.2.1, h2.2.2, Bool.not_not, and_self]

theorem mem_predicted (j : Hid) (f : Flip) (hf : f ≠ .sentZ) :
    Hid.mem j (predictedRejecters j f) = inLeftU f ∧ Hid.mem j.prev (predictedRejecters j f) = inProver f ∧
      Hid.mem j.next (predictedRejecters j f) = inRightV f := by
  cases f <;> first | exact absurd rfl hf | (cases j <;> exact ⟨rfl, rfl, rfl⟩)

theorem rejects_eq_predicted (g : Gate) (j : Hid) (f : Flip) (h : Hid) :
    rejects (views g (some (j, f))) h = Hid.mem h (predictedRejecters j f) := by
  have recorded : ∀ j f, f ≠ .sentZ → rejects (views g (some (j, f))) h = Hid.mem h (predictedRejecters j f) := by
    intro j f hf
    obtain ⟨r0, r1, r2⟩ := rejects_flip g j f hf
    obtain ⟨m0, m1, m2⟩ := mem_predicted j f hf
    have : h = j ∨ h = j.prev ∨ h = j.next := by cases h <;> cases j <;> simp [Hid.prev, Hid.next]
    rcases this with rfl | rfl | rfl
    · rw [r0, m0]
    · rw [r1, m1]
    · rw [r2, m2]
  by_cases hf : f = .sentZ
  · subst hf
    rw [views_sentZ]
    exact recorded j.prev .zr (by decide)
  · exact recorded j f hf

end IpaVerif.C03
