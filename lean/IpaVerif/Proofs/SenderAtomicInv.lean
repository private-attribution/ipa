import IpaVerif.Proofs.SenderAtomic
/-! The inductive invariant of the atomic-level model of `OrderingSender` and its preservation by
every action. -/
namespace IpaVerif.OrderingSenderAtomic
open IpaVerif.CircularBuf IpaVerif.OrderingSender

/-- Well-formed use of the sender: the writer futures have pairwise distinct indices, a `Close`
future (if any) has the largest index, and the stream task is not one of the writers. -/
structure WF (c : Cfg) : Prop where
  inj : ∀ t u, c.writer t = true → c.writer u = true → c.idx t = c.idx u → t = u
  closeMax : ∀ t u, c.writer t = true → c.writer u = true → c.isClose u = true → t ≠ u → c.idx t < c.idx u
  reader : c.writer c.reader = false

/-- A writer below another writer's index is not the `Close`. -/
theorem WF.not_close {c : Cfg} (wf : WF c) {u v : Task} (hu : c.writer u = true) (hv : c.writer v = true)
    (hlt : c.idx v < c.idx u) : c.isClose v = false := by
  cases hcv : c.isClose v with
  | false => rfl
  | true =>
    have hne : u ≠ v := fun e => by rw [e] at hlt; exact Nat.lt_irrefl _ hlt
    exact absurd (wf.closeMax u v hu hv hcv hne) (Nat.lt_asymm hlt)

/-- `wr`: only writer tasks leave `fresh`; `ldLe`/`rLd`: a loaded `next` is not ahead of `next`;
`past`/`below`: the tasks that have incremented are exactly those with an index below `next`;
`wrote`: the task between its critical section and its increment holds the turn. -/
structure Inv (c : Cfg) (a : AState) : Prop where
  wr : ∀ t, a.pc t ≠ .fresh → c.writer t = true
  ldLe : ∀ t cu, a.pc t = .loaded cu → cu ≤ a.s.next
  past : ∀ t, (a.pc t = .incd ∨ a.pc t = .done) → c.idx t < a.s.next
  wrote : ∀ t, a.pc t = .wrote → c.idx t = a.s.next
  below : ∀ j, j < a.s.next → ∃ t, c.writer t = true ∧ c.idx t = j ∧ (a.pc t = .incd ∨ a.pc t = .done)
  rLd : ∀ v n, a.rpc = .loaded v n → n ≤ a.s.next
  sorted : ∀ k, Asc (a.s.shards k).wakers
  wokenLe : ∀ k, (a.s.shards k).wokenAt ≤ a.s.next
  /-- a completed `Send(i)` has executed `wake(i+1)`, and `woken_at` never goes back -/
  doneWoke : ∀ t, a.pc t = .done → c.isClose t = false →
    c.idx t + 1 ≤ (a.s.shards (shardIdx (c.idx t + 1))).wokenAt
  /-- a parked, not yet woken task has its waker in its shard -/
  parkedIn : ∀ t, a.pc t = .waitTurn → a.woken t = false →
    ⟨c.idx t, t⟩ ∈ (a.s.shards (shardIdx (c.idx t))).wakers
  /-- … and if its turn has come, the wake-up for it is still pending (in flight) -/
  parkedPending : ∀ t, a.pc t = .waitTurn → a.woken t = false → c.idx t ≤ a.s.next →
    ∃ u, c.isClose u = false ∧ a.pc u = .incd ∧ c.idx u + 1 = c.idx t

theorem Inv.pastOf {c : Cfg} {a : AState} (wf : WF c) (h : Inv c a) {t : Task} (hw : c.writer t = true)
    (hlt : c.idx t < a.s.next) : a.pc t = .incd ∨ a.pc t = .done := by
  obtain ⟨u, hu, hi, hp⟩ := h.below _ hlt
  have := wf.inj u t hu hw hi
  subst this; exact hp

theorem Inv.next_le_idx {c : Cfg} {a : AState} (wf : WF c) (h : Inv c a) {t : Task}
    (h1 : a.pc t ≠ .fresh) (h2 : a.pc t ≠ .incd) (h3 : a.pc t ≠ .done) : a.s.next ≤ c.idx t :=
  Nat.le_of_not_gt fun hlt => (h.pastOf wf (h.wr t h1) hlt).elim h2 h3

/-- A task that has loaded `next` is a writer that has not incremented yet. -/
theorem Inv.of_loaded {c : Cfg} {a : AState} (h : Inv c a) {t : Task} {cu : Nat} (hp : a.pc t = .loaded cu) :
    c.writer t = true ∧ a.pc t ≠ .incd ∧ a.pc t ≠ .done := by
  rw [hp]; exact ⟨h.wr t (by rw [hp]; nofun), nofun, nofun⟩

theorem Inv.reader_fresh {c : Cfg} {a : AState} (wf : WF c) (h : Inv c a) : a.pc c.reader = .fresh :=
  Decidable.byContradiction fun hq => Bool.false_ne_true (wf.reader.symm.trans (h.wr c.reader hq))

theorem Inv.shardsOk {c : Cfg} {a : AState} (h : Inv c a) : ShardsOk a.s.shards a.s.next :=
  ⟨h.sorted, h.wokenLe⟩

theorem Inv.init (c : Cfg) {cap ws rs : Nat} {s0 : State} (h0 : State.new cap ws rs = .ok s0) :
    Inv c (AState.init s0) := by
  obtain ⟨hn, hsh⟩ : s0.next = 0 ∧ ∀ k, (AState.init s0).s.shards k = {} := by
    unfold State.new at h0
    split at h0
    · cases h0; exact ⟨rfl, fun _ => rfl⟩
    · cases h0
  -- every task is `fresh`, the reader `idle`, `next = 0` and the shards are empty
  exact {
    wr := fun t ht => absurd rfl ht, ldLe := nofun, past := fun t ht => ht.elim nofun nofun,
    wrote := nofun, rLd := nofun, doneWoke := nofun, parkedIn := nofun, parkedPending := nofun,
    below := fun j hj => absurd (Nat.lt_of_lt_of_eq hj hn) (Nat.not_lt_zero j)
    sorted := fun k => by rw [hsh]; exact List.Pairwise.nil
    wokenLe := fun k => by rw [hsh]; exact Nat.zero_le _ }

theorem pc_upd {a a' : AState} {t : Task} {p : Pc} (hpc : a'.pc = upd a.pc t p) :
    a'.pc t = p ∧ ∀ u, u ≠ t → a'.pc u = a.pc u :=
  ⟨by rw [hpc]; exact upd_same _ _ _, fun u hu => by rw [hpc]; exact upd_other _ _ hu⟩

theorem Inv.pending_other {c : Cfg} {a a' : AState} (h : Inv c a) {t u : Task}
    (hpo : ∀ u, u ≠ t → a'.pc u = a.pc u) (ht : a.pc t ≠ .incd)
    (hu : a.pc u = .waitTurn) (hw : a.woken u = false) (hle : c.idx u ≤ a.s.next) :
    ∃ v, c.isClose v = false ∧ a'.pc v = .incd ∧ c.idx v + 1 = c.idx u := by
  obtain ⟨v, hv1, hv2, hv3⟩ := h.parkedPending u hu hw hle
  exact ⟨v, hv1, (hpo v fun e => ht (e ▸ hv2)).trans hv2, hv3⟩

/-- An action of task `t` changes only `t`'s program counter (to `p`): the `t_*` hypotheses are the
clauses of `Inv` about `t` at `p`, the others say what the other tasks and the shards keep. -/
theorem Inv.frame {c : Cfg} {a a' : AState} (wf : WF c) (h : Inv c a) (t : Task) (p : Pc)
    (hpt : a'.pc t = p) (hpo : ∀ u, u ≠ t → a'.pc u = a.pc u)
    (t_wr : p = .fresh ∨ c.writer t = true)
    (t_ld : ∀ cu, p = .loaded cu → cu ≤ a'.s.next)
    (t_past : p = .incd ∨ p = .done → c.idx t < a'.s.next)
    (t_wrote : p = .wrote → c.idx t = a'.s.next)
    (t_done : p = .done → c.isClose t = false →
      c.idx t + 1 ≤ (a'.s.shards (shardIdx (c.idx t + 1))).wokenAt)
    (t_park : p = .waitTurn → a'.woken t = false →
      ⟨c.idx t, t⟩ ∈ (a'.s.shards (shardIdx (c.idx t))).wakers ∧
      (c.idx t ≤ a'.s.next → ∃ v, c.isClose v = false ∧ a'.pc v = .incd ∧ c.idx v + 1 = c.idx t))
    (t_keep : a.pc t = .incd ∨ a.pc t = .done → p = .incd ∨ p = .done)
    (hnext : a'.s.next = a.s.next ∨ (a'.s.next = a.s.next + 1 ∧ c.writer t = true ∧
      c.idx t = a.s.next ∧ (p = .incd ∨ p = .done)))
    (hr : ∀ v n, a'.rpc = .loaded v n → n ≤ a'.s.next)
    (hok : ShardsOk a'.s.shards a'.s.next)
    (hmono : ∀ k, (a.s.shards k).wokenAt ≤ (a'.s.shards k).wokenAt)
    (hwk : ∀ u, u ≠ t → a'.woken u = false → a.woken u = false)
    (hkeep : ∀ u, u ≠ t → a.pc u = .waitTurn → a'.woken u = false →
      ⟨c.idx u, u⟩ ∈ (a.s.shards (shardIdx (c.idx u))).wakers →
      ⟨c.idx u, u⟩ ∈ (a'.s.shards (shardIdx (c.idx u))).wakers)
    (hpend : ∀ u, u ≠ t → a.pc u = .waitTurn → a'.woken u = false → c.idx u ≤ a'.s.next →
      ∃ v, c.isClose v = false ∧ a'.pc v = .incd ∧ c.idx v + 1 = c.idx u) : Inv c a' := by
  have old : ∀ {u q}, u ≠ t → a'.pc u = q → a.pc u = q := fun hut hu => (hpo _ hut).symm.trans hu
  have new : ∀ {q}, a'.pc t = q → p = q := fun hu => hpt.symm.trans hu
  have hn : a.s.next ≤ a'.s.next := by
    rcases hnext with e | ⟨e, _⟩
    · exact Nat.le_of_eq e.symm
    · exact e ▸ Nat.le_succ _
  -- every clause but `below` is about one task: show it for `t` and for the others
  have byTask : ∀ {P : Task → Prop}, P t → (∀ u, u ≠ t → P u) → ∀ u, P u :=
    fun ht ho u => if e : u = t then e ▸ ht else ho u e
  refine ⟨?_, ?_, ?_, ?_, ?_, hr, hok.sorted, hok.woken_le, ?_, ?_, ?_⟩
  · exact byTask (fun hu => t_wr.resolve_left fun e => hu (hpt.trans e))
      fun u hut hu => h.wr u fun e => hu ((hpo u hut).trans e)
  · exact byTask (fun cu hu => t_ld cu (new hu))
      fun u hut cu hu => Nat.le_trans (h.ldLe u cu (old hut hu)) hn
  · exact byTask (fun hu => t_past (hu.imp new new))
      fun u hut hu => Nat.lt_of_lt_of_le (h.past u (hu.imp (old hut) (old hut))) hn
  · refine byTask (fun hu => t_wrote (new hu)) fun u hut hu => ?_
    have hi := h.wrote u (old hut hu)
    rcases hnext with e | ⟨_, hw, ht, _⟩
    · exact hi.trans e.symm
    · -- `t` holds the turn, so no other task is between critical section and increment
      exact absurd (wf.inj u t (h.wr u (by rw [old hut hu]; nofun)) hw (hi.trans ht.symm)) hut
  · intro j hj
    by_cases hjn : j < a.s.next
    · obtain ⟨u, hu, hi, hpu⟩ := h.below j hjn
      refine ⟨u, hu, hi, ?_⟩
      by_cases hut : u = t
      · subst hut; rw [hpt]; exact t_keep hpu
      · rw [hpo u hut]; exact hpu
    · rcases hnext with e | ⟨e, hw, ht, hp⟩
      · exact absurd (e ▸ hj) hjn
      · have hle : j ≤ a.s.next := Nat.le_of_lt_succ (Nat.lt_of_lt_of_eq hj e)
        exact ⟨t, hw, ht.trans (Nat.le_antisymm (Nat.le_of_not_lt hjn) hle), by rw [hpt]; exact hp⟩
  · exact byTask (fun hu => t_done (new hu))
      fun u hut hu hc => Nat.le_trans (h.doneWoke u (old hut hu) hc) (hmono _)
  · exact byTask (fun hu hw => (t_park (new hu) hw).1)
      fun u hut hu hw => hkeep u hut (old hut hu) hw (h.parkedIn u (old hut hu) (hwk u hut hw))
  · exact byTask (fun hu hw => (t_park (new hu) hw).2)
      fun u hut hu => hpend u hut (old hut hu)

def Pc.Neutral (next idx : Nat) : Pc → Prop
  | .incd | .done | .waitTurn => False
  | .wrote => idx = next
  | .loaded cu => cu ≤ next
  | _ => True

theorem Inv.neutral {c : Cfg} {a a' : AState} (wf : WF c) (h : Inv c a) (t : Task) (p : Pc)
    (hn : a'.s.next = a.s.next) (hs : a'.s.shards = a.s.shards)
    (hpt : a'.pc t = p) (hpo : ∀ u, u ≠ t → a'.pc u = a.pc u)
    (hp : p.Neutral a.s.next (c.idx t)) (hwr : p = .fresh ∨ c.writer t = true)
    (hold : a.pc t ≠ .incd ∧ a.pc t ≠ .done)
    (hwk : ∀ u, u ≠ t → a'.woken u = false → a.woken u = false)
    (hr : ∀ v n, a'.rpc = .loaded v n → n ≤ a.s.next) : Inv c a' := by
  rw [← hn] at hp hr
  exact h.frame wf t p hpt hpo (t_wr := hwr)
    (t_ld := fun cu e => by subst e; exact hp)
    (t_past := fun e => by rcases e with rfl | rfl <;> exact hp.elim)
    (t_wrote := fun e => by subst e; exact hp)
    (t_done := fun e => by subst e; exact hp.elim)
    (t_park := fun e => by subst e; exact hp.elim)
    (t_keep := fun e => (e.elim hold.1 hold.2).elim)
    (hnext := .inl hn) (hr := hr) (hok := by rw [hs, hn]; exact h.shardsOk)
    (hmono := fun k => by rw [hs]; exact Nat.le_refl _) (hwk := hwk)
    (hkeep := fun u _ _ _ hin => by rw [hs]; exact hin)
    (hpend := fun u hut hu hw hle => h.pending_other hpo hold.1 hu (hwk u hut hw) (hn ▸ hle))

/-- `t` is the finishing sender (`incd → done`, `j = i + 1`) or, for the reader's wake, the stream
task, whose pc stays `fresh`. -/
theorem Inv.wake {c : Cfg} {a a' : AState} (wf : WF c) (h : Inv c a) (j : Nat) (hj : j ≤ a.s.next)
    (hs : a'.s = (a.s.waitingWake j).1) (hw : a'.woken = mark a.woken (a.s.waitingWake j).2)
    (t : Task) (hpo : ∀ u, u ≠ t → a'.pc u = a.pc u)
    (ht : (a.pc t = .fresh ∧ a'.pc t = .fresh) ∨ (a.pc t = .incd ∧ a'.pc t = .done ∧ c.idx t + 1 = j))
    (hr : ∀ v n, a'.rpc = .loaded v n → n ≤ a.s.next) : Inv c a' := by
  obtain ⟨sok, skeep, sfound⟩ := waitingWake_spec a.s j h.shardsOk hj
  have hn : a'.s.next = a.s.next := by rw [hs]; rfl
  have hmono : ∀ k, (a.s.shards k).wokenAt ≤ (a'.s.shards k).wokenAt :=
    fun k => hs ▸ waitingWake_wokenAt_le a.s j k
  have hok : ShardsOk a'.s.shards a'.s.next := by rw [hn, hs]; exact sok
  have hwk : ∀ u, a'.woken u = false → a.woken u = false := fun u e => mark_false (hw ▸ e)
  have hnm : ∀ u, a'.woken u = false → u ∉ (a.s.waitingWake j).2 :=
    fun u e => mark_false_not_mem (hw ▸ e)
  -- a parked task not woken by this `wake(j)` is parked for an index above `j`
  have hkeep : ∀ u, a.pc u = .waitTurn → a'.woken u = false →
      ⟨c.idx u, u⟩ ∈ (a.s.shards (shardIdx (c.idx u))).wakers →
      ⟨c.idx u, u⟩ ∈ (a'.s.shards (shardIdx (c.idx u))).wakers := by
    intro u hu hwu hin
    rw [hs]
    rcases Nat.lt_trichotomy (c.idx u) j with hlt | heq | hgt
    · have := h.next_le_idx wf (t := u) (by rw [hu]; nofun) (by rw [hu]; nofun) (by rw [hu]; nofun)
      exact absurd (Nat.le_trans hj this) (Nat.not_le_of_gt hlt)
    · rw [heq] at hin; exact absurd (sfound u hin) (hnm u hwu)
    · exact skeep _ _ hin hgt
  rw [← hn] at hr
  have frame := fun p => h.frame wf t p (hpo := hpo) (hnext := .inl hn) (hr := hr) (hok := hok) (hmono := hmono)
    (hwk := fun u _ => hwk u) (hkeep := fun u _ => hkeep u)
  rcases ht with ⟨h1, h2⟩ | ⟨h1, h2, h3⟩
  · exact frame .fresh h2 (t_wr := .inl rfl) (t_ld := nofun) (t_past := nofun)
      (t_wrote := nofun) (t_done := nofun) (t_park := nofun)
      (t_keep := fun e => by rw [h1] at e; rcases e with x | x <;> cases x)
      (hpend := fun u hut hu hwu hle =>
        h.pending_other hpo (by rw [h1]; nofun) hu (hwk u hwu) (hn ▸ hle))
  · refine frame .done h2 (t_wr := .inr (h.wr t (by rw [h1]; nofun))) (t_ld := nofun)
      (t_past := fun _ => hn ▸ h.past t (.inl h1)) (t_wrote := nofun)
      (t_done := fun _ _ => by
        rw [h3, hs, waitingWake_wokenAt, if_pos rfl]; exact Nat.le_max_right _ _)
      (t_park := nofun) (t_keep := fun _ => .inr rfl) (hpend := ?_)
    -- the pending wake-up of `u` is delivered by this very action if it was `t`'s
    intro u _ hu hwu hle
    obtain ⟨v, hv1, hv2, hv3⟩ := h.parkedPending u hu (hwk u hwu) (hn ▸ hle)
    by_cases hvt : v = t
    · have hin := h.parkedIn u hu (hwk u hwu)
      rw [← hv3, hvt, h3] at hin
      exact absurd (sfound u hin) (hnm u hwu)
    · exact ⟨v, hv1, (hpo v hvt).trans hv2, hv3⟩

theorem Inv.add {c : Cfg} {a a' : AState} (wf : WF c) (h : Inv c a) (t : Task) (cu : Nat) (sh : Shard)
    (hp : a.pc t = .loaded cu) (hlt : cu < c.idx t)
    (hadd : (a.s.shards (shardIdx (c.idx t))).add cu (c.idx t) t = some sh)
    (hs : a'.s = { a.s with shards := fun k => if k = shardIdx (c.idx t) then sh else a.s.shards k })
    (hpc : a'.pc = upd a.pc t .waitTurn) (hw : a'.woken = a.woken) (hr : a'.rpc = a.rpc) : Inv c a' := by
  obtain ⟨ssorted, smem, swok, skeep⟩ := Shard.add_spec (h.sorted _) hadd
  obtain ⟨hwt, hni, hnd⟩ := h.of_loaded hp
  have hn : a'.s.next = a.s.next := by rw [hs]
  have hsh : ∀ k, (a'.s.shards k).wokenAt = (a.s.shards k).wokenAt := by
    intro k; rw [hs]; dsimp only; split
    · rename_i hk; rw [hk]; exact swok
    · rfl
  have hpo := (pc_upd hpc).2
  refine h.frame wf t .waitTurn (pc_upd hpc).1 hpo (t_wr := .inr hwt)
    (t_ld := nofun) (t_past := nofun) (t_wrote := nofun) (t_done := nofun) (t_park := ?_)
    (t_keep := fun e => (e.elim hni hnd).elim) (hnext := .inl hn)
    (hr := fun v n e => hn ▸ h.rLd v n (hr ▸ e)) (hok := ⟨?_, ?_⟩)
    (hmono := fun k => Nat.le_of_eq (hsh k).symm) (hwk := fun u _ e => hw ▸ e) (hkeep := ?_)
    (hpend := fun u hut hu hwu hle =>
      h.pending_other hpo hni hu (hw ▸ hwu) (hn ▸ hle))
  · intro _ _
    refine ⟨by rw [hs]; dsimp only; rw [if_pos rfl]; exact smem, fun hle => ?_⟩
    -- the task with index `i - 1` has incremented `next`; had it already executed `wake(i)`,
    -- `woken_at ≥ i > curr` and this `add` would have been rejected
    rw [hn] at hle
    obtain ⟨i, hi⟩ := Nat.exists_eq_add_one_of_ne_zero (Nat.ne_of_gt (Nat.zero_lt_of_lt hlt))
    rw [hi] at hle
    obtain ⟨v, hv, hiv, hpv⟩ := h.below i hle
    have hiv' : c.idx v + 1 = c.idx t := by rw [hiv, hi]
    have hvt : v ≠ t := fun heq => by rw [heq, hi] at hiv; exact Nat.succ_ne_self i hiv
    have hcl : c.isClose v = false := wf.not_close hwt hv (by rw [hiv, hi]; exact Nat.lt_succ_self i)
    refine ⟨v, hcl, ?_, hiv'⟩
    rw [hpo v hvt]
    rcases hpv with x | x
    · exact x
    · have hd := h.doneWoke v x hcl
      rw [hiv'] at hd
      have := Shard.add_isSome_iff.mp ⟨sh, hadd⟩
      exact absurd (Nat.le_trans hd this) (Nat.not_le_of_gt hlt)
  · intro k; rw [hs]; dsimp only; split
    · exact ssorted
    · exact h.sorted k
  · intro k; rw [hsh, hn]; exact h.wokenLe k
  · intro u hut hu _ hin
    rw [hs]; dsimp only
    split
    · rename_i hk
      rw [hk] at hin
      exact skeep _ hin fun heq => hut (wf.inj u t (h.wr u (by rw [hu]; nofun)) hwt heq)
    · exact hin

theorem Inv.inc {c : Cfg} {a a' : AState} (wf : WF c) (h : Inv c a) (t : Task)
    (hp : a.pc t = .wrote) (hs : a'.s = { a.s with next := a.s.next + 1 })
    (hpc : a'.pc = upd a.pc t (if c.isClose t then .done else .incd))
    (hw : a'.woken = a.woken) (hr : a'.rpc = a.rpc) : Inv c a' := by
  have hwt : c.writer t = true := h.wr t (by rw [hp]; nofun)
  have hit : c.idx t = a.s.next := h.wrote t hp
  have hn : a'.s.next = a.s.next + 1 := by rw [hs]
  have hsh : a'.s.shards = a.s.shards := by rw [hs]
  have hpo := (pc_upd hpc).2
  have hpt' : (if c.isClose t then Pc.done else Pc.incd) = .incd ∨
      (if c.isClose t then Pc.done else Pc.incd) = .done := by
    split
    · exact .inr rfl
    · exact .inl rfl
  refine h.frame wf t _ (pc_upd hpc).1 hpo (t_wr := .inr hwt)
    (t_ld := fun cu e => by split at e <;> cases e) (t_past := fun _ => by rw [hn, hit]; exact Nat.lt_succ_self _)
    (t_wrote := fun e => by split at e <;> cases e) (t_done := fun e hc => by rw [hc] at e; cases e)
    (t_park := fun e => by split at e <;> cases e) (t_keep := fun _ => hpt')
    (hnext := .inr ⟨hn, hwt, hit, hpt'⟩)
    (hr := fun v n e => hn ▸ Nat.le_succ_of_le (h.rLd v n (hr ▸ e)))
    (hok := by rw [hsh, hn]; exact h.shardsOk.mono (Nat.le_succ _))
    (hmono := fun k => by rw [hsh]; exact Nat.le_refl _) (hwk := fun u _ e => hw ▸ e)
    (hkeep := fun u _ _ _ hin => by rw [hsh]; exact hin) (hpend := ?_)
  · intro u hut hu hwu hle
    by_cases hlt : c.idx u ≤ a.s.next
    · exact h.pending_other hpo (by rw [hp]; nofun) hu (hw ▸ hwu) hlt
    · -- `u` is next in turn: its wake-up becomes pending at `t`, which cannot be the `Close`
      have hcl : c.isClose t = false :=
        wf.not_close (h.wr u (by rw [hu]; nofun)) hwt (hit ▸ Nat.lt_of_not_le hlt)
      exact ⟨t, hcl, by rw [hpc, upd_same, hcl]; rfl,
        hit ▸ Nat.le_antisymm (Nat.lt_of_not_le hlt) (hn ▸ hle)⟩

theorem Inv.step {c : Cfg} {a a' : AState} {act : Act} {e : Ev} (wf : WF c) (h : Inv c a)
    (hstep : astep c a act = some (a', e)) : Inv c a' := by
  cases act with
  | load t =>
    obtain ⟨hw, hcan, hs, hpc, hr, hwk⟩ := doLoad_frame hstep
    exact h.neutral wf t (.loaded a.s.next) (by rw [hs]) (by rw [hs]) (pc_upd hpc).1 (pc_upd hpc).2
      (hp := Nat.le_refl _) (hwr := .inr hw)
      (hold := ⟨fun hx => by rw [hx] at hcan; exact hcan, fun hx => by rw [hx] at hcan; exact hcan⟩)
      (hwk := fun u hu hf => by rw [hwk u hu] at hf; exact hf) (hr := hr ▸ h.rLd)
  | panicTwice t =>
    obtain ⟨⟨cu, hp, _⟩, hs, hpc, hr, hwk⟩ := doPanicTwice_frame hstep
    exact h.neutral wf t .panicked (by rw [hs]) (by rw [hs]) (pc_upd hpc).1 (pc_upd hpc).2
      (hp := trivial) (hwr := .inr (h.of_loaded hp).1) (hold := (h.of_loaded hp).2)
      (hwk := fun u _ hf => hwk ▸ hf) (hr := hr ▸ h.rLd)
  | cs t =>
    obtain ⟨hp, _, hn, hs, ⟨p, hpc, hcases⟩, hr, hwk⟩ := doCs_frame hstep
    have hturn : c.idx t = a.s.next :=
      Nat.le_antisymm (h.ldLe t _ hp)
        (h.next_le_idx wf (by rw [hp]; nofun) (h.of_loaded hp).2.1 (h.of_loaded hp).2.2)
    exact h.neutral wf t p hn hs (pc_upd hpc).1 (pc_upd hpc).2
      (hp := by rcases hcases with rfl | rfl | rfl <;> first | trivial | exact hturn)
      (hwr := .inr (h.of_loaded hp).1) (hold := (h.of_loaded hp).2)
      (hwk := fun u _ hf => hwk u hf) (hr := hr ▸ h.rLd)
  | add t =>
    obtain ⟨cu, hp, hlt, hr, hwk, hcase⟩ := doAdd_frame hstep
    rcases hcase with ⟨sh, hadd, hs, hpc⟩ | ⟨_, hs, hpc⟩
    · exact h.add wf t cu sh hp hlt hadd hs hpc hwk hr
    · exact h.neutral wf t .polling (by rw [hs]) (by rw [hs]) (pc_upd hpc).1 (pc_upd hpc).2
        (hp := trivial) (hwr := .inr (h.of_loaded hp).1) (hold := (h.of_loaded hp).2)
        (hwk := fun u _ hf => hwk ▸ hf) (hr := hr ▸ h.rLd)
  | inc t =>
    obtain ⟨hp, hs, hr, hwk, hcase⟩ := doInc_frame hstep
    rcases hcase with ⟨hne, _⟩ | ⟨_, hpc⟩
    · exact absurd (h.wrote t hp).symm hne
    · exact h.inc wf t hp hs hpc hwk hr
  | wake t =>
    obtain ⟨hp, hs, hpc, hr, hwk⟩ := doWake_frame hstep
    exact h.wake wf (c.idx t + 1) (h.past t (Or.inl hp)) hs hwk t
      (pc_upd hpc).2 (.inr ⟨hp, (pc_upd hpc).1, rfl⟩) (hr ▸ h.rLd)
  | rTake =>
    obtain ⟨_, hn, hs, hpc, hr, hwk⟩ := doRTake_frame hstep
    have hfresh := h.reader_fresh wf
    exact h.neutral wf c.reader .fresh hn hs (by rw [hpc]; exact hfresh) (fun u _ => by rw [hpc])
      (hp := trivial) (hwr := .inl rfl) (hold := by rw [hfresh]; exact ⟨nofun, nofun⟩) (hwk := hwk)
      (hr := fun v n hv => absurd hv (hr v n))
  | rLoad =>
    obtain ⟨v, _, hs, hpc, hwk, hr⟩ := doRLoad_frame hstep
    have hfresh := h.reader_fresh wf
    exact h.neutral wf c.reader .fresh (by rw [hs]) (by rw [hs]) (by rw [hpc]; exact hfresh)
      (fun u _ => by rw [hpc]) (hp := trivial) (hwr := .inl rfl)
      (hold := by rw [hfresh]; exact ⟨nofun, nofun⟩) (hwk := fun u _ hf => hwk ▸ hf)
      (hr := fun v' n hv => by rw [hr] at hv; cases hv; exact Nat.le_refl _)
  | rWake =>
    obtain ⟨v, n, hrp, hs, hpc, hwk, hr⟩ := doRWake_frame hstep
    have hfresh := h.reader_fresh wf
    exact h.wake wf n (h.rLd v n hrp) hs hwk c.reader (fun u _ => by rw [hpc])
      (.inl ⟨hfresh, by rw [hpc]; exact hfresh⟩) (fun v' n' hv => by rw [hr] at hv; cases hv)

theorem Inv.reach {c : Cfg} (wf : WF c) {cap ws rs : Nat} {s0 : State} (h0 : State.new cap ws rs = .ok s0)
    {a : AState} (hr : Reach c s0 a) : Inv c a := by
  induction hr with
  | init => exact Inv.init c h0
  | step _ hs ih => exact ih.step wf hs

end IpaVerif.OrderingSenderAtomic
