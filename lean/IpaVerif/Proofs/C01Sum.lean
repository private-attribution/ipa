import Mathlib.Algebra.BigOperators.Group.Finset.Basic
import IpaVerif.Proofs.C01Agg
import IpaVerif.Proofs.C01Group
/-! Bucket totals of the rows of `aggregate_reports` as sums over the pseudonyms. -/
namespace IpaVerif.C01
open IpaVerif.Hybrid

theorem bucketSum_eq_sum_ite (b : Nat) : ∀ rows : List Row,
    bucketSum rows b = (rows.map fun r => if r.1 = b then r.2 else 0).sum
  | [] => rfl
  | row :: rows => by
      rw [List.map_cons, List.sum_cons, ← bucketSum_eq_sum_ite b rows, bucketSum, bucketSum, bucketValues, bucketValues,
        List.filter_cons]
      by_cases h : row.1 = b
      · rw [if_pos h, if_pos (beq_iff_eq.mpr h), List.map_cons, List.sum_cons]
      · rw [if_neg h, if_neg fun h' => h (beq_iff_eq.mp h'), Nat.zero_add]

theorem sum_map_filterMap {α β : Type} (f : α → Option β) (g : β → Nat) : ∀ l : List α,
    ((l.filterMap f).map g).sum = (l.map fun a => (f a).elim 0 g).sum
  | [] => rfl
  | a :: l => by
      rw [List.filterMap_cons, List.map_cons, List.sum_cons, ← sum_map_filterMap f g l]
      cases f a
      · exact (Nat.zero_add _).symm
      · rfl

theorem bucketSum_pairs (w : Widths) (b : Nat) (m : EMap) :
    bucketSum ((m.filterMap (fun ke => ke.2.intoPair)).map (addPair w)) b
      = (m.map (fun ke => entryVal w b (some ke.2))).sum := by
  rw [bucketSum_eq_sum_ite, List.map_map, sum_map_filterMap]
  exact congrArg List.sum (List.map_congr_left fun ⟨_, e⟩ _ => by cases e <;> rfl)

theorem sum_entries_eq_sum_keys (w : Widths) (b : Nat) : ∀ m : EMap, SortedKeys m →
    (m.map (fun ke => entryVal w b (some ke.2))).sum
      = ((keysOf m).map (fun k => entryVal w b (lookupE k m))).sum
  | [], _ => rfl
  | (k, e) :: rest, h => by
      obtain ⟨h1, h2⟩ := sortedKeys_cons.mp h
      rw [List.map_cons, List.sum_cons, sum_entries_eq_sum_keys w b rest h2]
      show _ = entryVal w b (lookupE k ((k, e) :: rest))
        + ((keysOf rest).map fun x => entryVal w b (lookupE x ((k, e) :: rest))).sum
      rw [lookupE_cons, if_pos rfl]
      exact congrArg _ (congrArg List.sum (List.map_congr_left fun x hx => by
        rw [lookupE_cons, if_neg (Nat.ne_of_gt (h1 x hx))]))

/-- **Grouping lemma.** The bucket total of the rows produced by `aggregate_reports` is the sum, over the
distinct pseudonyms, of what the reports carrying that pseudonym contribute. -/
theorem groupSum (w : Widths) (b : Nat) (reports : List (Nat × Rec)) :
    bucketSum (aggregateReports w reports) b
      = ∑ t ∈ (reports.map Prod.fst).toFinset,
          listVal w b ((reports.filter (fun kr => kr.1 == t)).map Prod.snd) := by
  have h0 : SortedKeys [] := List.Pairwise.nil
  have hs := sorted_insertAll reports [] h0
  have hset : (keysOf (insertAll [] reports)).toFinset = (reports.map Prod.fst).toFinset :=
    Finset.ext fun x => by
      rw [List.mem_toFinset, List.mem_toFinset, keysOf_insertAll]
      exact ⟨fun h => h.elim (fun h => nomatch h) id, Or.inr⟩
  rw [aggregateReports, groupPairs_eq_insertAll, bucketSum_pairs, sum_entries_eq_sum_keys w b _ hs, ← hset, List.sum_toFinset _ (hs.imp Nat.ne_of_lt)]
  exact congrArg List.sum (List.map_congr_left fun t _ => by
    rw [lookup_insertAll reports [] h0 t]
    exact entryVal_entryFold w b _)

end IpaVerif.C01
