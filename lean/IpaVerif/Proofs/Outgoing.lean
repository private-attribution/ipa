import IpaVerif.Model.Reshard
/-! What a resharding channel `src → d` carries: the records whose picker value is `d`, in input order. -/
namespace IpaVerif.Reshard

theorem outgoing_eq_filter {α : Type} (pick : Nat → Nat → α → Nat) (src d : Nat) (xs : List α) : ∀ i,
    outgoing pick src d i xs = ((xs.zipIdx i).filter fun p => pick src p.2 p.1 == d).map Prod.fst := by
  induction xs with
  | nil => intro i; rfl
  | cons x xs ih =>
    intro i
    simp only [outgoing, List.zipIdx_cons, List.filter_cons, beq_iff_eq, ih (i + 1)]
    split <;> rfl

end IpaVerif.Reshard
