import IpaVerif.Model.SeqJoinMt
/-! C15: invariant of the multi-threaded `SequentialFutures` (`Model/SeqJoinMt.lean`), laid out as
`Proofs/SeqJoinInv.lean`; then liveness under a willing environment. -/
namespace IpaVerif.SeqJoinMt

structure Inv (n : Nat) (s : State) (em : List Nat) : Prop where
  order : em ++ s.futs ++ s.src = List.range n
  len : s.len = em.length + s.futs.length
  done : s.srcDone = true → s.src = []

theorem inv_new (n cap : Nat) : Inv n (State.new n cap) [] := ⟨rfl, rfl, nofun⟩

theorem inv_lengths {n s em} (h : Inv n s em) : em.length + s.futs.length + s.src.length = n := by
  simpa [Nat.add_assoc] using congrArg List.length h.order

theorem refill_spec {n : Nat} {em : List Nat} (fuel : Nat) (s : State) (pulled budget : Nat) (h : Inv n s em) :
    let r := (refill fuel s pulled budget).1
    Inv n r em ∧ r.cap = s.cap ∧
    (s.cap < fuel + s.futs.length →
      s.cap ≤ r.futs.length ∨ (r.src = [] ∧ r.srcDone = true) ∨
        (r.futs.length = s.futs.length + budget ∧ r.src ≠ [])) := by
  fun_induction refill fuel s pulled budget with
  | case1 s => exact ⟨h, rfl, fun hf => .inl (Nat.le_of_lt ((Nat.zero_add _).subst hf))⟩
  | case2 _ s _ _ _ hd => exact ⟨h, rfl, fun _ => .inr (.inl ⟨h.done hd, hd⟩)⟩
  | case3 _ s _ _ _ _ hs => exact ⟨⟨h.order, h.len, fun _ => hs⟩, rfl, fun _ => .inr (.inl ⟨hs, rfl⟩)⟩
  | case4 _ s _ _ _ t rest hs => exact ⟨h, rfl, fun _ => .inr (.inr ⟨rfl, by simp [hs]⟩)⟩
  | case5 fuel s _ budget _ hd t rest hs hb ih =>
    have h' : Inv n { s with src := rest, futs := s.futs ++ [t], len := s.len + 1 } em :=
      ⟨by simpa [hs] using h.order, by simp [h.len, Nat.add_assoc], fun hd' => absurd hd' hd⟩
    obtain ⟨b', rfl⟩ := Nat.exists_eq_succ_of_ne_zero hb
    simp only [Nat.succ_sub_one] at ih ⊢
    obtain ⟨hI, hcap, hstop⟩ := ih h'
    simp only [List.length_append, List.length_singleton] at hstop
    refine ⟨hI, hcap, fun hf => ?_⟩
    rcases hstop (by omega) with hfull | hend | ⟨hlen, hsrc⟩
    · exact .inl hfull
    · exact .inr (.inl hend)
    · exact .inr (.inr ⟨by omega, hsrc⟩)
  | case6 _ s _ _ hlt => exact ⟨h, rfl, fun _ => .inl (Nat.not_lt.1 hlt)⟩

section step
variable {s s1 : State} {env : Env} {pulled : Nat} (hr : refill (s.cap + 1) s 0 env.budget = (s1, pulled))
include hr

theorem step_drained_done (hf : s1.futs = []) (hd : s1.srcDone = true) :
    step s env = (s1, .finished, pulled) := by
  simp [step, stepWith, hr, guardRemaining, hf, hd]

theorem step_drained_open (hf : s1.futs = []) (hd : s1.srcDone = false) :
    step s env = (s1, .pending, pulled) := by
  simp [step, stepWith, hr, guardRemaining, hf, hd]

theorem step_head_done {t : Nat} {rest : List Nat} (hf : s1.futs = t :: rest) (ht : env.done t = true) :
    step s env = ({ s1 with futs := rest }, .item t, pulled) := by
  simp [step, stepWith, hr, guardRemaining, pollScope, hf, ht]

theorem step_head_busy {t : Nat} {rest : List Nat} (hf : s1.futs = t :: rest) (ht : env.done t = false) :
    step s env = (s1, .pending, pulled) := by
  simp [step, stepWith, hr, guardRemaining, pollScope, hf, ht]

end step

theorem items_cons (o : Out) (os : List Out) : items (o :: os) = items [o] ++ items os := by
  cases o <;> rfl

theorem items_append (a b : List Out) : items (a ++ b) = items a ++ items b := by
  induction a with
  | nil => rfl
  | cons x xs ih => rw [List.cons_append, items_cons, ih, ← List.append_assoc, ← items_cons]

theorem step_spec {n : Nat} {s : State} {em : List Nat} (h : Inv n s em) (env : Env) :
    (step s env).1.cap = s.cap ∧ Inv n (step s env).1 (em ++ items [(step s env).2.1]) ∧
    ((step s env).2.1 = .finished → (step s env).1.srcDone = true ∧
      (step s env).1.futs = [] ∧ (step s env).1.src = [] ∧ em = List.range n) := by
  obtain ⟨h1, hcap, _⟩ := refill_spec (s.cap + 1) s 0 env.budget h
  rcases hr : refill (s.cap + 1) s 0 env.budget with ⟨s1, pulled⟩
  simp only [hr] at h1 hcap
  have hkeep : Inv n s1 (em ++ []) := (List.append_nil em).symm ▸ h1
  cases hf : s1.futs with
  | nil =>
    cases hd : s1.srcDone with
    | true =>
      rw [step_drained_done hr hf hd]
      have hs := h1.done hd
      exact ⟨hcap, hkeep, fun _ => ⟨hd, hf, hs, by simpa [hf, hs] using h1.order⟩⟩
    | false =>
      rw [step_drained_open hr hf hd]
      exact ⟨hcap, hkeep, nofun⟩
  | cons t rest =>
    cases ht : env.done t with
    | true =>
      rw [step_head_done hr hf ht]
      refine ⟨hcap, ⟨?_, ?_, h1.done⟩, nofun⟩
      · simpa [hf, items] using h1.order
      · simp [h1.len, hf, items]
        omega
    | false =>
      rw [step_head_busy hr hf ht]
      exact ⟨hcap, hkeep, nofun⟩

-- stated for any guard; `run_cons` is the instance for the code's guard
theorem runWith_cons (g : State → Bool) (s : State) (e : Env) (es : List Env) :
    runWith g s (e :: es) =
      ((runWith g (stepWith g s e).1 es).1, (stepWith g s e).2.1 :: (runWith g (stepWith g s e).1 es).2) := rfl

theorem run_cons (s : State) (e : Env) (es : List Env) :
    run s (e :: es) = ((run (step s e).1 es).1, (step s e).2.1 :: (run (step s e).1 es).2) :=
  runWith_cons ..

theorem run_append (a b : List Env) (s : State) : (run s (a ++ b)).2 = (run s a).2 ++ (run (run s a).1 b).2 := by
  induction a generalizing s with
  | nil => rfl
  | cons e es ih => rw [List.cons_append, run_cons, run_cons, ih]; rfl

theorem run_spec {n : Nat} : ∀ (envs : List Env) (s : State) (em : List Nat), Inv n s em →
    Inv n (run s envs).1 (em ++ items (run s envs).2) ∧ (run s envs).1.cap = s.cap ∧
    (∀ pre o post, (run s envs).2 = pre ++ o :: post → o = .finished → em ++ items pre = List.range n) := by
  intro envs
  induction envs with
  | nil => intro s em h; exact ⟨(List.append_nil em).symm ▸ h, rfl, fun pre o post hh => by cases pre <;> cases hh⟩
  | cons e es ih =>
    intro s em h
    obtain ⟨hcap, hI1, hfin⟩ := step_spec h e
    obtain ⟨a, b, c⟩ := ih _ _ hI1
    rw [run_cons]
    refine ⟨by rwa [List.append_assoc, ← items_cons] at a, b.trans hcap, fun pre o post hsplit hfo => ?_⟩
    cases pre with
    | nil =>
      obtain ⟨rfl, _⟩ := List.cons.inj hsplit
      exact (List.append_nil em).symm ▸ (hfin hfo).2.2.2
    | cons p ps =>
      obtain ⟨rfl, h2⟩ := List.cons.inj hsplit
      have := c ps o post h2 hfo
      rwa [List.append_assoc, ← items_cons] at this

theorem willing_step {n : Nat} {s : State} {em : List Nat} (h : Inv n s em) (hc : 0 < s.cap) :
    (step s willing).2.1 = .finished ∨ ∃ t, (step s willing).2.1 = .item t := by
  obtain ⟨_, _, hstop⟩ := refill_spec (s.cap + 1) s 0 willing.budget h
  rcases hr : refill (s.cap + 1) s 0 willing.budget with ⟨s1, pulled⟩
  simp only [hr] at hstop
  cases hf : s1.futs with
  | nil =>
    -- the queue is empty although there is room and the source was willing: the source has ended
    rw [hf] at hstop
    rcases hstop (Nat.lt_add_right _ (Nat.lt_succ_self _)) with h0 | h0 | h0
    · exact absurd (Nat.lt_of_lt_of_le hc h0) (Nat.lt_irrefl _)
    · exact .inl (congrArg (·.2.1) (step_drained_done hr hf h0.2))
    · exact absurd h0.1 (Nat.succ_ne_zero _).symm
  | cons t rest => exact .inr ⟨t, congrArg (·.2.1) (step_head_done hr hf rfl)⟩

theorem step_item_lengths {n : Nat} {s : State} {em : List Nat} (h : Inv n s em) {env : Env} {t : Nat}
    (ht : (step s env).2.1 = .item t) :
    (step s env).1.futs.length + (step s env).1.src.length + 1 = s.futs.length + s.src.length := by
  have hl' := inv_lengths (step_spec h env).2.1
  have hl := inv_lengths h
  rw [ht, List.length_append] at hl'
  simp only [items, List.length_singleton] at hl'
  generalize (step s env).1 = s' at hl' ⊢
  omega

theorem willing_drains {n : Nat} : ∀ (m : Nat) (s : State) (em : List Nat), Inv n s em → 0 < s.cap →
    s.futs.length + s.src.length = m →
    Out.finished ∈ (run s (List.replicate (m + 1) willing)).2 := by
  intro m
  induction m with
  | zero =>
    intro s em h hc hm
    rw [List.replicate_succ, run_cons]
    rcases willing_step h hc with hf | ⟨t, ht⟩
    · rw [hf]; exact List.mem_cons_self
    · exact absurd ((step_item_lengths h ht).trans hm) (Nat.succ_ne_zero _)
  | succ m ih =>
    intro s em h hc hm
    obtain ⟨hcap, hI, _⟩ := step_spec h willing
    rw [List.replicate_succ, run_cons]
    rcases willing_step h hc with hf | ⟨t, ht⟩
    · rw [hf]; exact List.mem_cons_self
    · exact List.mem_cons_of_mem _
        (ih _ _ hI (by rw [hcap]; exact hc) (Nat.succ.inj ((step_item_lengths h ht).trans hm)))

end IpaVerif.SeqJoinMt
