import IpaVerif.Proofs.C03Store
/-!
Two inserts of different records into an anchored store commute (C03 `push_order_irrelevant`): the two block
vectors have the same length and the same block at every index.
-/
namespace IpaVerif.C03
open IpaVerif.DzkpStore IpaVerif.Generated.Dzkp

theorem list_ext_getD {α : Type} (d : α) : ∀ (l₁ l₂ : List α), l₁.length = l₂.length →
    (∀ k, l₁.getD k d = l₂.getD k d) → l₁ = l₂ := by
  intro l₁ l₂ hl hg
  apply List.ext_getElem hl
  intro i h1 h2
  have := hg i
  simp only [List.getD_eq_getElem?_getD, List.getElem?_eq_getElem h1, List.getElem?_eq_getElem h2,
    Option.getD_some] at this
  exact this

theorem setBits_comm (b p1 w1 v1 p2 w2 v2 : Nat) (hd : p1 + w1 ≤ p2 ∨ p2 + w2 ≤ p1) :
    setBits (setBits b p1 w1 v1) p2 w2 v2 = setBits (setBits b p2 w2 v2) p1 w1 v1 := by
  apply Nat.eq_of_testBit_eq
  intro q
  simp only [setBits_testBit]
  by_cases h1 : p1 ≤ q ∧ q < p1 + w1 <;> by_cases h2 : p2 ≤ q ∧ q < p2 + w2
  · exfalso; omega
  · simp [h1, h2]
  · simp [h1, h2]
  · simp [h1, h2]

theorem blockSetAll_comm (b : Block) (p1 w1 : Nat) (s1 : Segment) (p2 w2 : Nat) (s2 : Segment)
    (hd : p1 + w1 ≤ p2 ∨ p2 + w2 ≤ p1) :
    blockSetAll (blockSetAll b p1 w1 s1 0) p2 w2 s2 0 = blockSetAll (blockSetAll b p2 w2 s2 0) p1 w1 s1 0 := by
  unfold blockSetAll
  simp only [setBits_comm _ p1 w1 _ p2 w2 _ hd]

theorem insertSmall_comm (vec : List Block) (i j : Nat) (s t : Segment) (hw : s.width < 256)
    (hst : t.width = s.width) (hij : i ≠ j) :
    insertSmall (insertSmall vec i s) j t = insertSmall (insertSmall vec j t) i s := by
  have hap := stride_apart (nextPow2 s.width) s.width i j (le_nextPow2 s.width) hij
  apply list_ext_getD zeroBlock
  · simp only [length_insertSmall, hst]; exact Nat.max_right_comm _ _ _
  · intro k
    simp only [getD_insertSmall, hst]
    generalize nextPow2 s.width * i = X at hap ⊢
    generalize nextPow2 s.width * j = Y at hap ⊢
    by_cases hxy : X / 256 = Y / 256
    · -- both records in one block: the two writes hit disjoint bit ranges of it
      rw [hxy]
      split
      · exact (blockSetAll_comm _ _ _ _ _ _ _ (by omega)).symm
      · rfl
    · by_cases h1 : k = X / 256
      · simp only [h1, hxy, if_true, if_false]
      · simp only [h1, if_false]

theorem insertLarge_comm (vec : List Block) (i j m : Nat) (s t : Segment) (hw : s.width = 256 * m)
    (hst : t.width = s.width) (hij : i ≠ j) :
    insertLarge (insertLarge vec i s) j t = insertLarge (insertLarge vec j t) i s := by
  have hwt : t.width = 256 * m := by rw [hst, hw]
  have hap := stride_apart m m i j (Nat.le_refl m) hij
  apply list_ext_getD zeroBlock
  · simp only [length_insertLarge _ _ m _ hw, length_insertLarge _ _ m _ hwt]; exact Nat.max_right_comm _ _ _
  · intro k
    simp only [getD_insertLarge _ _ m _ hw, getD_insertLarge _ _ m _ hwt]
    generalize m * i = X at hap ⊢
    generalize m * j = Y at hap ⊢
    by_cases h1 : X ≤ k ∧ k < X + m
    · have h2 : ¬ (Y ≤ k ∧ k < Y + m) := by omega
      simp only [h1, h2, and_self, if_true, if_false]
    · simp only [h1, if_false]

/-- the hypotheses about the store in `insert_ok` and `insert_comm`. -/
def StoreAt (f m w : Nat) (st : Store) : Prop := st.first = some f ∧ st.max = m ∧ st.width = w

theorem insert_ok (st : Store) (f r : Nat) (s : Segment) (hf : st.first = some f) (hw : s.width = st.width)
    (h1 : f ≤ r) (h2 : r < st.max + f) :
    st.insert r s = .ok ⟨some f, st.max, st.width,
      if s.width < 256 then insertSmall st.vec (r - f) s else insertLarge st.vec (r - f) s⟩ := by
  unfold Store.insert
  simp only [hf, Option.getD_some]
  have a : ¬ s.width ≠ st.width := by simp [hw]
  have b : ¬ r < f := by omega
  have c : ¬ ¬ r < st.max + f := by omega
  simp only [a, b, c, if_false]

theorem insert_at {f m w : Nat} {st : Store} (h : StoreAt f m w st) {r : Nat} {s : Segment} (hs : s.width = w)
    (hr : f ≤ r ∧ r < m + f) : ∃ st', st.insert r s = .ok st' ∧ StoreAt f m w st' :=
  ⟨_, insert_ok st f r s h.1 (hs.trans h.2.2.symm) hr.1 (h.2.1.symm ▸ hr.2), rfl, h.2.1, h.2.2⟩

/-- two records, either order, one table: on an anchored store, inserting the segments of two different
records of the batch (same gate, hence same width) succeeds in both orders and leaves literally the same
store. -/
theorem insert_comm (st : Store) (f r₁ r₂ : Nat) (s₁ s₂ : Segment) (hf : st.first = some f)
    (hw₁ : s₁.width = st.width) (hw₂ : s₂.width = st.width) (hok : segmentOk s₁ = true)
    (h₁ : f ≤ r₁ ∧ r₁ < st.max + f) (h₂ : f ≤ r₂ ∧ r₂ < st.max + f) (hne : r₁ ≠ r₂) :
    ∃ a b ab, st.insert r₁ s₁ = .ok a ∧ a.insert r₂ s₂ = .ok ab ∧
              st.insert r₂ s₂ = .ok b ∧ b.insert r₁ s₁ = .ok ab := by
  refine ⟨_, _, _, insert_ok st f r₁ s₁ hf hw₁ h₁.1 h₁.2, insert_ok _ f r₂ s₂ rfl hw₂ h₂.1 h₂.2,
    insert_ok st f r₂ s₂ hf hw₂ h₂.1 h₂.2, ?_⟩
  refine (insert_ok ⟨some f, st.max, st.width, _⟩ f r₁ s₁ rfl hw₁ h₁.1 h₁.2).trans ?_
  have hid : r₁ - f ≠ r₂ - f := by omega
  have hww : s₂.width = s₁.width := by rw [hw₁, hw₂]
  congr 2
  by_cases hs : s₁.width < 256
  · simp only [hww, hs, if_true]
    exact (insertSmall_comm st.vec (r₁ - f) (r₂ - f) s₁ s₂ hs hww hid).symm
  · simp only [hww, hs, if_false]
    have hm : s₁.width = 256 * (s₁.width / 256) := by
      unfold segmentOk at hok
      simp only [Bool.or_eq_true, decide_eq_true_eq, beq_iff_eq] at hok
      omega
    exact (insertLarge_comm st.vec (r₁ - f) (r₂ - f) _ s₁ s₂ hm hww hid).symm

theorem insert_comm_at {f m w : Nat} {st : Store} (h : StoreAt f m w st) {r₁ r₂ : Nat} {s₁ s₂ : Segment}
    (hs₁ : s₁.width = w) (hs₂ : s₂.width = w) (hok : segmentOk s₁ = true)
    (h₁ : f ≤ r₁ ∧ r₁ < m + f) (h₂ : f ≤ r₂ ∧ r₂ < m + f) (hne : r₁ ≠ r₂) :
    ∃ a b ab, st.insert r₁ s₁ = .ok a ∧ a.insert r₂ s₂ = .ok ab ∧ st.insert r₂ s₂ = .ok b ∧ b.insert r₁ s₁ = .ok ab :=
  insert_comm st f r₁ r₂ s₁ s₂ h.1 (hs₁.trans h.2.2.symm) (hs₂.trans h.2.2.symm) hok (h.2.1.symm ▸ h₁)
    (h.2.1.symm ▸ h₂) hne

end IpaVerif.C03
