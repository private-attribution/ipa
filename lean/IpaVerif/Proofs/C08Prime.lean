import IpaVerif.Model.PrimeField
import IpaVerif.Generated.PrimeFields
/-!
# Prime-field arithmetic for arbitrary `Params`

What `Props/C08` states for the three extracted fields, for every parameter set of the same shape.
Core Lean only.
-/
namespace IpaVerif.C08
open IpaVerif.PrimeField IpaVerif.Generated

theorem fold_mod (p x : Nat) : (x % (p + 1) + x / (p + 1)) % p = x % p := by
  conv => rhs; rw [← Nat.div_add_mod x (p + 1), Nat.add_one_mul, Nat.add_assoc, Nat.mul_add_mod]
  rw [Nat.add_comm]

/-- `h` says that the first fold stays below `2^k · p` (true up to about `2^(3k)`); then the second fold is
below `2p` and the final conditional subtracts `p` at most once. -/
theorem mersenneReduce_eq_mod (P : Params) (hp : P.p + 1 = 2 ^ P.bits) {val : Nat}
    (h : val / 2 ^ P.bits + 2 ^ P.bits ≤ 2 ^ P.bits * P.p) : mersenneReduce P val = val % P.p := by
  have hand (x : Nat) : x &&& P.p = x % 2 ^ P.bits := by
    rw [← Nat.and_two_pow_sub_one_eq_mod, ← hp, Nat.add_sub_cancel]
  simp only [mersenneReduce, hand, Nat.shiftRight_eq_div_pow, ← hp] at h ⊢
  generalize P.p = p at h ⊢
  have hpos : 0 < p + 1 := Nat.succ_pos p
  rw [← fold_mod p val, ← fold_mod p (val % (p + 1) + val / (p + 1))]
  have hv1 : val % (p + 1) + val / (p + 1) < (p + 1) * p := by
    have := Nat.mod_lt val hpos
    omega
  generalize val % (p + 1) + val / (p + 1) = v1 at hv1 ⊢
  have hv2 : v1 % (p + 1) + v1 / (p + 1) < p + p := by
    have := Nat.div_lt_of_lt_mul hv1
    have := Nat.mod_lt v1 hpos
    omega
  generalize v1 % (p + 1) + v1 / (p + 1) = v2 at hv2 ⊢
  split
  · rw [Nat.mod_eq_sub_mod ‹_›, Nat.mod_eq_of_lt (by omega)]
  · rw [Nat.mod_eq_of_lt (by omega)]

theorem reduce_eq_mod {P : Params} (h : P.mersenne = false) (x : Nat) : reduce P x = x % P.p := by
  rw [reduce, h]; rfl

theorem no_overflow (P : Params) (hp : P.p < 2 ^ P.storeBits) (hs : 1 ≤ P.storeBits)
    (hop : 2 * P.storeBits ≤ P.opBits) {a b : Nat} (ha : a < 2 ^ P.storeBits) (hb : b < 2 ^ P.storeBits) :
    a + b < 2 ^ P.opBits ∧ P.p + a - b < 2 ^ P.opBits ∧ a * b < 2 ^ P.opBits := by
  have hsq : 2 ^ P.storeBits * 2 ^ P.storeBits ≤ 2 ^ P.opBits := by
    rw [← Nat.pow_add]; exact Nat.pow_le_pow_right (by decide) (by omega)
  have hdbl : 2 ^ P.storeBits + 2 ^ P.storeBits ≤ 2 ^ P.opBits := by
    rw [← Nat.two_mul]
    exact Nat.le_trans (Nat.mul_le_mul_right _ (Nat.one_lt_two_pow (by omega))) hsq
  exact ⟨Nat.lt_of_lt_of_le (Nat.add_lt_add ha hb) hdbl,
    Nat.lt_of_le_of_lt (Nat.sub_le _ _) (Nat.lt_of_lt_of_le (Nat.add_lt_add hp ha) hdbl),
    Nat.lt_of_lt_of_le (Nat.mul_lt_mul'' ha hb) hsq⟩

theorem neg_spec_of_lt (P : Params) {a : Nat} (ha : a < P.p) :
    neg P a < P.p ∧ neg P 0 = 0 ∧ (a + neg P a) % P.p = 0 :=
  ⟨Nat.mod_lt _ (Nat.zero_lt_of_lt ha), Nat.mod_self _,
    by rw [neg, Nat.add_mod_mod, Nat.add_sub_of_le (Nat.le_of_lt ha), Nat.mod_self]⟩

theorem bitLen_le_iff {v k : Nat} : bitLen v ≤ k ↔ v < 2 ^ k := by
  unfold bitLen
  split
  · simp [*, Nat.two_pow_pos]
  · exact Nat.log2_lt ‹_›

theorem tryFrom_eq_some {P : Params} (hbits : P.p ≤ 2 ^ P.bits) {v : Nat} (hr : reduce P v = v % P.p) (hv : v < P.p) :
    tryFrom P v = some v := by
  rw [tryFrom, if_pos (bitLen_le_iff.mpr (Nat.lt_of_lt_of_le hv hbits)), truncateFrom, hr, Nat.mod_eq_of_lt hv]

theorem forall_primeFields {motive : Params → Prop} (h31 : motive fp31) (h32 : motive fp32) (h61 : motive fp61)
    (P : Params) (hP : P ∈ primeFields) : motive P := by
  simp only [primeFields, List.mem_cons, List.mem_nil_iff, or_false] at hP
  rcases hP with rfl | rfl | rfl <;> assumption

end IpaVerif.C08
