import IpaVerif.Model.Hybrid
/-! `group_report_pairs_ordered` keeps exactly the keys with two reports; the `BTreeMap` is a key-sorted list. -/
namespace IpaVerif.C01
open IpaVerif.Hybrid

abbrev EMap := List (Nat × Entry)

def keysOf (m : EMap) : List Nat := m.map Prod.fst

def SortedKeys (m : EMap) : Prop := (keysOf m).Pairwise (· < ·)

def lookupE (x : Nat) : EMap → Option Entry
  | [] => none
  | (k, e) :: m => if x = k then some e else lookupE x m

/-- what `entry(k).and_modify(add).or_insert(Single)` does to the entry of `k`. -/
def bump (o : Option Entry) (r : Rec) : Entry :=
  match o with
  | none => .single r
  | some e => e.add r

theorem sortedKeys_cons {k : Nat} {e : Entry} {m : EMap} :
    SortedKeys ((k, e) :: m) ↔ (∀ x ∈ keysOf m, k < x) ∧ SortedKeys m := List.pairwise_cons

theorem lookupE_cons (x k : Nat) (e : Entry) (m : EMap) :
    lookupE x ((k, e) :: m) = if x = k then some e else lookupE x m := rfl

theorem lookupE_eq_none {x : Nat} : ∀ {m : EMap}, (∀ y ∈ keysOf m, y ≠ x) → lookupE x m = none
  | [], _ => rfl
  | (k, _) :: m, h => by
      rw [lookupE_cons, if_neg (h k List.mem_cons_self).symm]
      exact lookupE_eq_none fun y hy => h y (List.mem_cons_of_mem _ hy)

theorem keysOf_upsert (k : Nat) (r : Rec) (m : EMap) (x : Nat) : x ∈ keysOf (upsert k r m) ↔ x = k ∨ x ∈ keysOf m := by
  fun_induction upsert k r m with
  | case1 => exact List.mem_cons
  | case2 k' e rest h => exact List.mem_cons
  | case3 e rest h1 => exact ⟨Or.inr, fun h => h.elim (fun h => h ▸ List.mem_cons_self) id⟩
  | case4 k' e rest h1 h2 ih =>
    show x ∈ k' :: keysOf (upsert k r rest) ↔ x = k ∨ x ∈ k' :: keysOf rest
    rw [List.mem_cons, List.mem_cons, ih, or_left_comm]

theorem sorted_upsert (k : Nat) (r : Rec) (m : EMap) (h : SortedKeys m) : SortedKeys (upsert k r m) := by
  fun_induction upsert k r m with
  | case1 => exact List.pairwise_singleton _ _
  | case2 k' e rest hlt =>
    exact sortedKeys_cons.mpr ⟨fun x hx => (List.mem_cons.mp hx).elim (fun hx => hx ▸ hlt)
      fun hx => Nat.lt_trans hlt ((sortedKeys_cons.mp h).1 x hx), h⟩
  | case3 e rest _ => exact sortedKeys_cons.mpr (sortedKeys_cons.mp h)
  | case4 k' e rest hlt hne ih =>
    obtain ⟨h1, h2⟩ := sortedKeys_cons.mp h
    refine sortedKeys_cons.mpr ⟨fun x hx => ?_, ih h2⟩
    rcases (keysOf_upsert k r rest x).mp hx with rfl | hx
    · omega
    · exact h1 x hx

theorem lookup_upsert (k : Nat) (r : Rec) (m : EMap) (h : SortedKeys m) (x : Nat) :
    lookupE x (upsert k r m) = if x = k then some (bump (lookupE k m) r) else lookupE x m := by
  fun_induction upsert k r m with
  | case1 => rfl
  | case2 k' e rest hlt =>
    -- inserted in front: all keys of the map are above `k`
    rw [lookupE_eq_none (x := k) (m := (k', e) :: rest) fun y hy => by
      rcases List.mem_cons.mp hy with rfl | hy
      · exact Nat.ne_of_gt hlt
      · exact Nat.ne_of_gt (Nat.lt_trans hlt ((sortedKeys_cons.mp h).1 y hy))]
    rfl
  | case3 e rest _ =>
    rw [lookupE_cons x, lookupE_cons k, if_pos rfl, lookupE_cons x]
    by_cases hx : x = k
    · rw [if_pos hx, if_pos hx]; rfl
    · rw [if_neg hx, if_neg hx, if_neg hx]
  | case4 k' e rest hlt hne ih =>
    rw [lookupE_cons x, ih (sortedKeys_cons.mp h).2, lookupE_cons k, if_neg hne, lookupE_cons x]
    by_cases hx : x = k
    · rw [if_pos hx, if_pos hx, if_neg (hx ▸ hne)]
    · rw [if_neg hx, if_neg hx]

def insertAll (m : EMap) (reports : List (Nat × Rec)) : EMap :=
  reports.foldl (fun m (kr : Nat × Rec) => upsert kr.1 kr.2 m) m

theorem groupPairs_eq_insertAll (reports : List (Nat × Rec)) :
    groupPairs reports = (insertAll [] reports).filterMap (fun ke => ke.2.intoPair) := rfl

def entryFold (o : Option Entry) (rs : List Rec) : Option Entry :=
  rs.foldl (fun o r => some (bump o r)) o

theorem sorted_insertAll : ∀ (reports : List (Nat × Rec)) (m : EMap), SortedKeys m → SortedKeys (insertAll m reports)
  | [], _, h => h
  | kr :: rest, m, h => sorted_insertAll rest _ (sorted_upsert kr.1 kr.2 m h)

theorem keysOf_insertAll : ∀ (reports : List (Nat × Rec)) (m : EMap) (x : Nat),
    x ∈ keysOf (insertAll m reports) ↔ x ∈ keysOf m ∨ x ∈ reports.map Prod.fst
  | [], m, x => by rw [List.map_nil]; exact ⟨Or.inl, fun h => h.elim id fun h => nomatch h⟩
  | kr :: rest, m, x => by
      rw [insertAll, List.foldl_cons, ← insertAll, keysOf_insertAll rest, keysOf_upsert, List.map_cons, List.mem_cons,
        or_assoc, or_left_comm]

theorem lookup_insertAll : ∀ (reports : List (Nat × Rec)) (m : EMap), SortedKeys m → ∀ x,
    lookupE x (insertAll m reports)
      = entryFold (lookupE x m) ((reports.filter (fun kr => kr.1 == x)).map Prod.snd)
  | [], m, _, x => rfl
  | kr :: rest, m, h, x => by
      rw [insertAll, List.foldl_cons, ← insertAll, lookup_insertAll rest _ (sorted_upsert kr.1 kr.2 m h) x,
        lookup_upsert kr.1 kr.2 m h x, List.filter_cons]
      by_cases hx : x = kr.1
      · rw [if_pos hx, if_pos (beq_iff_eq.mpr hx.symm), hx]; rfl
      · rw [if_neg hx, if_neg fun h => hx (beq_iff_eq.mp h).symm]

/-- value a list of reports sharing one key adds to bucket `b` (non-zero only for exactly two reports). -/
def listVal (w : Widths) (b : Nat) : List Rec → Nat
  | [r1, r2] => if (r1.bk + r2.bk) % 2 ^ w.bkW = b then (r1.v + r2.v) % 2 ^ w.vW else 0
  | _ => 0

def entryVal (w : Widths) (b : Nat) : Option Entry → Nat
  | some (.pair r1 r2) => listVal w b [r1, r2]
  | _ => 0

theorem entryFold_more : ∀ rs : List Rec, entryFold (some .moreThanTwo) rs = some .moreThanTwo
  | [] => rfl
  | _ :: rs => entryFold_more rs

theorem entryVal_entryFold (w : Widths) (b : Nat) : ∀ rs : List Rec,
    entryVal w b (entryFold none rs) = listVal w b rs
  | [] | [_] | [_, _] => rfl
  | r1 :: r2 :: r3 :: rest => by
      rw [show entryFold none (r1 :: r2 :: r3 :: rest) = entryFold (some .moreThanTwo) rest from rfl, entryFold_more]
      rfl

theorem keyBucketValue_eq_listVal (w : Widths) (input : List Rec) (k b : Nat) :
    keyBucketValue w input k b = listVal w b (keyRows input k) := rfl

end IpaVerif.C01
