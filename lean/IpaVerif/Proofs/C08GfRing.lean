import IpaVerif.Model.Gf2k
import IpaVerif.Proofs.C08Clmul
/-!
# The model's `Mul` of `galois_field.rs` is multiplication in GF(2)[x]/(POLYNOMIAL)

The portable shift-xor loop computes the carry-less product `cl`, and the reduction loop returns the
canonical representative (`< 2^k`) of its input modulo the ideal generated by `POLYNOMIAL`; hence
`(k-bit values, xor, mul)` is a commutative ring for every `k` and every polynomial of degree `k`.
Core Lean only.
-/
namespace IpaVerif.GfRing
open IpaVerif.Clmul IpaVerif.Gf2k

/-- `x ≡ y` modulo the ideal of GF(2)[x] generated by `p`. -/
def Cong (p x y : Nat) : Prop := ∃ q, x ^^^ y = cl p q

theorem Cong.refl (p x : Nat) : Cong p x x := ⟨0, by simp [cl_zero_right]⟩

theorem Cong.symm {p x y : Nat} (h : Cong p x y) : Cong p y x := by
  obtain ⟨q, hq⟩ := h; exact ⟨q, by rw [Nat.xor_comm, hq]⟩

theorem Cong.xor {p x y x' y' : Nat} (h : Cong p x y) (h' : Cong p x' y') : Cong p (x ^^^ x') (y ^^^ y') := by
  obtain ⟨q, hq⟩ := h; obtain ⟨q', hq'⟩ := h'
  refine ⟨q ^^^ q', ?_⟩
  rw [cl_xor_right, ← hq, ← hq']; ac_rfl

theorem Cong.trans {p x y z : Nat} (h : Cong p x y) (h' : Cong p y z) : Cong p x z := by
  obtain ⟨q, hq⟩ := Cong.xor h h'
  exact ⟨q, by rw [← hq, Nat.xor_assoc, ← Nat.xor_assoc y, Nat.xor_self, Nat.zero_xor]⟩

theorem Cong.cl_left {p x y : Nat} (h : Cong p x y) (c : Nat) : Cong p (cl x c) (cl y c) := by
  obtain ⟨q, hq⟩ := h
  exact ⟨cl q c, by rw [← cl_xor_left, hq, cl_assoc]⟩

theorem Cong.cl {p x y x' y' : Nat} (h : Cong p x y) (h' : Cong p x' y') : Cong p (cl x x') (cl y y') := by
  have h1 := Cong.cl_left h x'
  have h2 := Cong.cl_left h' y
  rw [cl_comm x' y, cl_comm y' y] at h2
  exact Cong.trans h1 h2

theorem Cong.eq_of_lt {k p x y : Nat} (hp : 2 ^ k ≤ p) (hx : x < 2 ^ k) (hy : y < 2 ^ k) (h : Cong p x y) : x = y := by
  obtain ⟨q, hq⟩ := h
  have hlt : x ^^^ y < 2 ^ k := Nat.xor_lt_two_pow hx hy
  by_cases hq0 : q = 0
  · rw [hq0, cl_zero_right] at hq
    calc x = x ^^^ (x ^^^ y) := by rw [hq, Nat.xor_zero]
      _ = y := by rw [← Nat.xor_assoc, Nat.xor_self, Nat.zero_xor]
  · have := cl_ge_of_ne_zero hp hq0
    omega

theorem sel_shift (c a i : Nat) : (c &&& 1) * (a <<< i) = (if c % 2 = 1 then a else 0) <<< i := by
  rw [Nat.and_one_is_mod]
  have : c % 2 = 0 ∨ c % 2 = 1 := by omega
  rcases this with h | h <;> simp [h]

theorem clmulLoop_eq (a b n i prod : Nat) :
    clmulLoop a b n i prod = prod ^^^ (cl a ((b >>> i) % 2 ^ n)) <<< i := by
  induction n generalizing i prod with
  | zero => simp [clmulLoop, Nat.mod_one, cl_zero_right]
  | succ n ih =>
    rw [clmulLoop, ih, sel_shift]
    rw [cl_step a ((b >>> i) % 2 ^ (n + 1))]
    have h1 : (b >>> i) % 2 ^ (n + 1) % 2 = (b >>> i) % 2 :=
      Nat.mod_mod_of_dvd _ ⟨2 ^ n, by rw [Nat.pow_succ, Nat.mul_comm]⟩
    have h2 : (b >>> i) % 2 ^ (n + 1) / 2 = (b >>> (i + 1)) % 2 ^ n := by
      rw [Nat.pow_succ, Nat.mul_comm, Nat.mod_mul_right_div_self, Nat.shiftRight_add]
      simp [Nat.shiftRight_eq_div_pow]
    rw [h1, h2, Nat.shiftLeft_xor_distrib, ← Nat.shiftLeft_add, Nat.add_comm 1 i, Nat.xor_assoc]

theorem clmul_eq_cl {k a b : Nat} (hk : k ≤ 64) (ha : a < 2 ^ k) (hb : b < 2 ^ k) : clmul k a b = cl a b := by
  have h64 : 2 ^ k ≤ 2 ^ 64 := Nat.pow_le_pow_right (by decide) hk
  rw [clmul, clmulLoop_eq, Nat.mod_eq_of_lt (Nat.lt_of_lt_of_le ha h64), Nat.mod_eq_of_lt (Nat.lt_of_lt_of_le hb h64)]
  simp [Nat.mod_eq_of_lt hb]

theorem xor_clears_top {t x y : Nat} (hx1 : 2 ^ t ≤ x) (hx2 : x < 2 ^ (t + 1)) (hy1 : 2 ^ t ≤ y) (hy2 : y < 2 ^ (t + 1)) :
    x ^^^ y < 2 ^ t := by
  apply Nat.lt_pow_two_of_testBit
  intro i hi
  rw [Nat.testBit_xor]
  rcases Nat.eq_or_lt_of_le hi with rfl | hlt
  · rw [testBit_top hx1 hx2, testBit_top hy1 hy2]; rfl
  · have hpow : 2 ^ (t + 1) ≤ 2 ^ i := Nat.pow_le_pow_right (by decide) hlt
    rw [Nat.testBit_lt_two_pow (Nat.lt_of_lt_of_le hx2 hpow), Nat.testBit_lt_two_pow (Nat.lt_of_lt_of_le hy2 hpow)]; rfl

/-- One iteration of the reduction loop (`i = n`, `p` of degree `k`) on a value of degree `≤ k + n`. -/
theorem reduce_step {k p : Nat} (hp1 : 2 ^ k ≤ p) (hp2 : p < 2 ^ (k + 1)) {n x : Nat} (hx : x < 2 ^ (k + n + 1)) :
    x >>> (k + n) ≤ 1 ∧ (p * (x >>> (k + n))) <<< n < 2 ^ (k + n + 1) ∧
    x ^^^ (p * (x >>> (k + n))) <<< n < 2 ^ (k + n) ∧ Cong p x (x ^^^ (p * (x >>> (k + n))) <<< n) := by
  by_cases hb : x < 2 ^ (k + n)
  · rw [Nat.shiftRight_eq_zero _ _ hb, Nat.mul_zero, Nat.zero_shiftLeft, Nat.xor_zero]
    exact ⟨Nat.zero_le 1, Nat.two_pow_pos _, hb, Cong.refl p x⟩
  · have hb' : 2 ^ (k + n) ≤ x := Nat.le_of_not_lt hb
    have h1 : x >>> (k + n) = 1 := by
      rw [Nat.shiftRight_eq_div_pow]
      exact Nat.div_eq_of_lt_le (by rwa [Nat.one_mul]) (by rwa [← Nat.pow_succ'])
    have hy1 : 2 ^ (k + n) ≤ p <<< n := by
      rw [Nat.shiftLeft_eq, Nat.pow_add]; exact Nat.mul_le_mul_right _ hp1
    have hy2 : p <<< n < 2 ^ (k + n + 1) := by
      rw [Nat.shiftLeft_eq, Nat.add_right_comm, Nat.pow_add]
      exact Nat.mul_lt_mul_of_pos_right hp2 (Nat.two_pow_pos n)
    rw [h1, Nat.mul_one]
    refine ⟨Nat.le_refl 1, hy2, xor_clears_top hb' hx hy1 hy2, 2 ^ n, ?_⟩
    rw [cl_two_pow, ← Nat.xor_assoc, Nat.xor_self, Nat.zero_xor]

theorem reduceLoop_spec {k p : Nat} (hp1 : 2 ^ k ≤ p) (hp2 : p < 2 ^ (k + 1)) (n x : Nat) (hx : x < 2 ^ (k + n)) :
    reduceLoop k p n x < 2 ^ k ∧ Cong p x (reduceLoop k p n x) := by
  induction n generalizing x with
  | zero => exact ⟨hx, Cong.refl p x⟩
  | succ n ih =>
    obtain ⟨_, _, hlt, hc⟩ := reduce_step hp1 hp2 hx
    exact ⟨(ih _ hlt).1, Cong.trans hc (ih _ hlt).2⟩

theorem bitLen_le_iff {v k : Nat} : bitLen v ≤ k ↔ v < 2 ^ k := by
  unfold bitLen
  split
  · simp [*, Nat.two_pow_pos]
  · exact Nat.log2_lt ‹_›

theorem lt_two_pow_bitLen (e : Nat) : e < 2 ^ bitLen e := bitLen_le_iff.mp (Nat.le_refl _)

theorem truncateFrom_eq_mod (P : Params) (v : Nat) : truncateFrom P v = v % 2 ^ P.bits :=
  Nat.and_two_pow_sub_one_eq_mod v P.bits

theorem tryFrom_eq (P : Params) (v : Nat) : tryFrom P v = if v < 2 ^ P.bits then some v else none := by
  simp only [tryFrom, bitLen_le_iff]
  split
  · rw [truncateFrom_eq_mod, Nat.mod_eq_of_lt ‹_›]
  · rfl

/-- `POLYNOMIAL` has degree exactly `BITS`, and `1 ≤ BITS ≤ 64` (the `u64` operands of `clmul`). -/
structure WF (P : Params) : Prop where
  bits_pos : 1 ≤ P.bits
  bits_le : P.bits ≤ 64
  poly_ge : 2 ^ P.bits ≤ P.poly
  poly_lt : P.poly < 2 ^ (P.bits + 1)

theorem WF.one_lt {P : Params} (w : WF P) : 1 < 2 ^ P.bits := Nat.one_lt_two_pow (Nat.ne_of_gt w.bits_pos)

instance (P : Params) : Decidable (WF P) :=
  decidable_of_iff (1 ≤ P.bits ∧ P.bits ≤ 64 ∧ 2 ^ P.bits ≤ P.poly ∧ P.poly < 2 ^ (P.bits + 1))
    ⟨fun ⟨a, b, c, d⟩ => ⟨a, b, c, d⟩, fun ⟨a, b, c, d⟩ => ⟨a, b, c, d⟩⟩

theorem cl_lt_of_canonical {P : Params} (w : WF P) {a b : Nat} (ha : a < 2 ^ P.bits) (hb : b < 2 ^ P.bits) :
    cl a b < 2 ^ (P.bits + (P.bits - 1)) :=
  cl_lt ha (by rwa [Nat.sub_add_cancel w.bits_pos])

theorem mulRaw_spec {P : Params} (w : WF P) {a b : Nat} (ha : a < 2 ^ P.bits) (hb : b < 2 ^ P.bits) :
    mulRaw P a b < 2 ^ P.bits ∧ Cong P.poly (cl a b) (mulRaw P a b) := by
  rw [mulRaw, clmul_eq_cl w.bits_le ha hb]
  exact reduceLoop_spec w.poly_ge w.poly_lt _ _ (cl_lt_of_canonical w ha hb)

theorem mul_eq_some {P : Params} (w : WF P) {a b : Nat} (ha : a < 2 ^ P.bits) (hb : b < 2 ^ P.bits) :
    mul P a b = some (mulRaw P a b) :=
  (tryFrom_eq P _).trans (if_pos (mulRaw_spec w ha hb).1)

theorem mulRaw_of_mul {P : Params} (w : WF P) {a b r : Nat} (ha : a < 2 ^ P.bits) (hb : b < 2 ^ P.bits)
    (h : mul P a b = some r) : mulRaw P a b = r :=
  Option.some.inj ((mul_eq_some w ha hb).symm.trans h)

theorem mulRaw_unique {P : Params} (w : WF P) {a b r : Nat} (ha : a < 2 ^ P.bits) (hb : b < 2 ^ P.bits)
    (hr : r < 2 ^ P.bits) (h : Cong P.poly (cl a b) r) : mulRaw P a b = r :=
  Cong.eq_of_lt w.poly_ge (mulRaw_spec w ha hb).1 hr (Cong.trans (Cong.symm (mulRaw_spec w ha hb).2) h)

theorem mulRaw_comm {P : Params} (w : WF P) {a b : Nat} (ha : a < 2 ^ P.bits) (hb : b < 2 ^ P.bits) :
    mulRaw P a b = mulRaw P b a := by
  apply mulRaw_unique w ha hb (mulRaw_spec w hb ha).1
  rw [cl_comm]; exact (mulRaw_spec w hb ha).2

theorem mulRaw_assoc {P : Params} (w : WF P) {a b c : Nat} (ha : a < 2 ^ P.bits) (hb : b < 2 ^ P.bits)
    (hc : c < 2 ^ P.bits) : mulRaw P (mulRaw P a b) c = mulRaw P a (mulRaw P b c) := by
  have hab := mulRaw_spec w ha hb
  have hbc := mulRaw_spec w hb hc
  apply mulRaw_unique w hab.1 hc (mulRaw_spec w ha hbc.1).1
  -- cl (a*b) c ≡ cl (cl a b) c = cl a (cl b c) ≡ cl a (b*c) ≡ a*(b*c)
  have s1 : Cong P.poly (cl (mulRaw P a b) c) (cl (cl a b) c) := Cong.cl_left (Cong.symm hab.2) c
  have s2 : Cong P.poly (cl a (cl b c)) (cl a (mulRaw P b c)) := Cong.cl (Cong.refl _ a) hbc.2
  rw [cl_assoc] at s1
  exact Cong.trans s1 (Cong.trans s2 (mulRaw_spec w ha hbc.1).2)

theorem mulRaw_xor_right {P : Params} (w : WF P) {a b c : Nat} (ha : a < 2 ^ P.bits) (hb : b < 2 ^ P.bits)
    (hc : c < 2 ^ P.bits) : mulRaw P a (b ^^^ c) = mulRaw P a b ^^^ mulRaw P a c := by
  have hab := mulRaw_spec w ha hb
  have hac := mulRaw_spec w ha hc
  apply mulRaw_unique w ha (Nat.xor_lt_two_pow hb hc) (Nat.xor_lt_two_pow hab.1 hac.1)
  rw [cl_xor_right]
  exact Cong.xor hab.2 hac.2

theorem mulRaw_one {P : Params} (w : WF P) {a : Nat} (ha : a < 2 ^ P.bits) : mulRaw P a 1 = a := by
  apply mulRaw_unique w ha w.one_lt ha
  rw [cl_one_right]; exact Cong.refl _ a

theorem mulRaw_zero {P : Params} (w : WF P) {a : Nat} (ha : a < 2 ^ P.bits) : mulRaw P a 0 = 0 := by
  apply mulRaw_unique w ha (Nat.two_pow_pos _) (Nat.two_pow_pos _)
  rw [cl_zero_right]; exact Cong.refl _ 0

end IpaVerif.GfRing
