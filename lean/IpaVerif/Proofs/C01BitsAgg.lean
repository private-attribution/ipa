import IpaVerif.Proofs.C01Bits
/-! Second half of the pipeline on shares: reconstruction (`recBits`) commutes with every stage. -/
namespace IpaVerif.C01
open IpaVerif.Sharing IpaVerif.Circuits IpaVerif.Hybrid IpaVerif.HybridShares IpaVerif.C07

theorem recBits_zeros (n : Nat) : recBits (List.replicate n (zeroS boolAlg)) = 0 := by
  rw [recBits_eq, List.map_replicate]
  exact val_append_zeros [] n

theorem allC_zeros (n : Nat) : AllC (List.replicate n (zeroS boolAlg)) := fun w hw => by
  rw [List.eq_of_mem_replicate hw]
  exact ⟨rfl, rfl, rfl⟩

theorem resize_bits (ρ : Path → Masks Bool) (a : List SW) (w : Nat) (ha : AllC a) (hl : a.length ≤ w) :
    AllC (resizeZero (shareAlg ρ) a w) ∧ (resizeZero (shareAlg ρ) a w).length = w ∧
    recBits (resizeZero (shareAlg ρ) a w) = recBits a := by
  rw [resizeZero, List.take_of_length_le hl]
  refine ⟨fun x hx => (List.mem_append.mp hx).elim (ha x) (allC_zeros _ x), ?_, ?_⟩
  · rw [List.length_append, List.length_replicate, Nat.add_sub_cancel' hl]
  · rw [recBits_eq, List.map_append, List.map_replicate]
    exact val_append_zeros _ _

theorem resize_min_bits (ρ : Path → Masks Bool) (a : List SW) (w : Nat) (ha : AllC a) (hl : a.length ≤ w) :
    AllC (resizeZero (shareAlg ρ) a w) ∧ (resizeZero (shareAlg ρ) a w).length = w ∧
    recBits (resizeZero (shareAlg ρ) a w) = min (recBits a) (2 ^ w - 1) := by
  rw [Nat.min_eq_left (Nat.le_sub_one_of_lt (Nat.lt_of_lt_of_le (recBits_lt a) (Nat.pow_le_pow_right Nat.two_pos hl)))]
  exact resize_bits ρ a w ha hl

/-- `aggregate_values` on replicated shares (any number of rows of a common width
`tv ≤ w`, any PRSS masks): the output is a consistent sharing of exactly `w` bits whose reconstruction
is the value-level tree `Hybrid.aggTree` of the reconstructed rows, i.e. `min (Σ rows) (2^w − 1)`. -/
theorem aggTree_bits (ρ : Path → Masks Bool) (p : Path) (w tv : Nat) (htv : tv ≤ w) (rows : List (List SW))
    (hc : ∀ r ∈ rows, AllC r) (hl : ∀ r ∈ rows, r.length = tv) :
    AllC (aggregateValues (shareAlg ρ) p w rows) ∧ (aggregateValues (shareAlg ρ) p w rows).length = w ∧
    recBits (aggregateValues (shareAlg ρ) p w rows) = aggTree (2 ^ w - 1) rows.length (rows.map recBits) ∧
    recBits (aggregateValues (shareAlg ρ) p w rows) = min ((rows.map recBits).sum) (2 ^ w - 1) := by
  obtain ⟨h1, h2⟩ := agg_shares ρ p w rows hc
  obtain ⟨h3, h4⟩ := aggTree_value p w tv htv (rows.map (List.map recB)) fun r hr => by
    obtain ⟨r0, hr0, rfl⟩ := List.mem_map.mp hr
    rw [List.length_map, hl r0 hr0]
  have hval : recBits (aggregateValues (shareAlg ρ) p w rows) = min ((rows.map recBits).sum) (2 ^ w - 1) := by
    rw [recBits_eq, h2, h4, List.map_map]; rfl
  refine ⟨h1, ?_, ?_, hval⟩
  · rw [← List.length_map (f := recB), h2, h3]
  · rw [hval, aggTree_eq _ _ _ (by rw [List.length_map]; exact Nat.le_succ _)]

theorem chunksG_map {β γ : Type} (g : β → γ) (n : Nat) : ∀ (fuel : Nat) (l : List β),
    chunksG n fuel (l.map g) = (chunksG n fuel l).map (List.map g)
  | _, [] => by simp [chunksG]
  | 0, a :: rest => by simp [chunksG]
  | fuel + 1, a :: rest => by
    simp only [List.map_cons, chunksG]
    rw [← List.map_cons, ← List.map_take, ← List.map_drop, chunksG_map g n fuel]

theorem chunksG_mem {β : Type} (n fuel : Nat) (l : List β) (c : List β) (hc : c ∈ chunksG n fuel l) (x : β)
    (hx : x ∈ c) : x ∈ l := by
  rw [← chunksG_flatten n fuel l]
  exact List.mem_flatten_of_mem hc hx

theorem sAggChunks_bits (ρ : Path → Masks Bool) (p : Path) (w tv : Nat) (htv : tv ≤ w) (cs : List (List (List SW)))
    (hc : ∀ c ∈ cs, ∀ r ∈ c, AllC r) (hl : ∀ c ∈ cs, ∀ r ∈ c, r.length = tv) :
    (∀ y ∈ sAggChunks (shareAlg ρ) p w cs, AllC y ∧ y.length = w) ∧
    (sAggChunks (shareAlg ρ) p w cs).map recBits
      = (cs.map (List.map recBits)).map (fun c => aggTree (2 ^ w - 1) c.length c) := by
  rw [List.map_map]
  exact zipWith_idx_spec _ _ _ _ _ _ (by rw [List.length_range]) fun i c hcm => by
    obtain ⟨h1, h2, h3, _⟩ := aggTree_bits ρ (p ++ [i]) w tv htv c (hc c hcm) (hl c hcm)
    exact ⟨⟨h1, h2⟩, by rw [h3, Function.comp, List.length_map]⟩

theorem sChunkedAgg_step {α : Type} (A : SecureAlg α) (p : Path) (w chunk fuel depth : Nat) (a b : List α)
    (rest : List (List α)) :
    sChunkedAgg A p w chunk (fuel + 1) depth (a :: b :: rest) = sChunkedAgg A p w chunk fuel (depth + 1)
      (sAggChunks A (p ++ [stepAggregate, depth]) w (chunksG (max chunk 2) (a :: b :: rest).length (a :: b :: rest))) :=
  rfl

/-- the chunked aggregation loop of `breakdown_reveal_aggregation` on one column of
share rows reconstructs to the value-level `Hybrid.chunkedAgg`. -/
theorem sChunkedAgg_bits (ρ : Path → Masks Bool) (p : Path) (w chunk : Nat) :
    ∀ (fuel depth tv : Nat) (l : List (List SW)), tv ≤ w → (∀ r ∈ l, AllC r) → (∀ r ∈ l, r.length = tv) →
      AllC (sChunkedAgg (shareAlg ρ) p w chunk fuel depth l) ∧
      (sChunkedAgg (shareAlg ρ) p w chunk fuel depth l).length = w ∧
      recBits (sChunkedAgg (shareAlg ρ) p w chunk fuel depth l) = chunkedAgg (2 ^ w - 1) chunk fuel (l.map recBits)
  | _, _, _, [], _, _, _ => by
    rw [sChunkedAgg, List.map_nil, chunkedAgg]
    exact resize_bits ρ [] w (fun _ hx => nomatch hx) (Nat.zero_le w)
  | fuel, depth, tv, [a], htv, hc, hl => by
    rw [show sChunkedAgg (shareAlg ρ) p w chunk fuel depth [a] = resizeZero (shareAlg ρ) a w by cases fuel <;> rfl,
      show chunkedAgg (2 ^ w - 1) chunk fuel ([a].map recBits) = min (recBits a) (2 ^ w - 1) by cases fuel <;> rfl]
    exact resize_min_bits ρ a w (hc a List.mem_cons_self) (hl a List.mem_cons_self ▸ htv)
  | 0, depth, tv, a :: b :: rest, htv, hc, hl =>
    resize_min_bits ρ a w (hc a List.mem_cons_self) (hl a List.mem_cons_self ▸ htv)
  | fuel + 1, depth, tv, a :: b :: rest, htv, hc, hl => by
    rw [sChunkedAgg_step, List.map_cons, List.map_cons, chunkedAgg_step, ← List.map_cons, ← List.map_cons]
    generalize a :: b :: rest = l at hc hl ⊢
    have hmem := chunksG_mem (max chunk 2) l.length l
    obtain ⟨c1, c2⟩ := sAggChunks_bits ρ (p ++ [stepAggregate, depth]) w tv htv _
      (fun c hcm r hr => hc r (hmem c hcm r hr)) (fun c hcm r hr => hl r (hmem c hcm r hr))
    rw [← chunksG_eq, List.length_map, chunksG_map, ← c2]
    exact sChunkedAgg_bits ρ p w chunk fuel (depth + 1) w _ (Nat.le_refl w) (fun r hr => (c1 r hr).1)
      fun r hr => (c1 r hr).2

theorem sBucketValues_rec (rows : List (SRow SW)) (b : Nat) :
    (sBucketValues recBits rows b).map recBits = bucketValues (rows.map recRow) b := by
  rw [sBucketValues, bucketValues, List.filter_map, List.map_map, List.map_map]
  rfl

theorem sBucketValues_length (rows : List (SRow SW)) (b : Nat) :
    (sBucketValues recBits rows b).length = (bucketValues (rows.map recRow) b).length := by
  rw [← sBucketValues_rec, List.length_map]

theorem sMaxLen_rec (W : Widths) (rows : List (SRow SW)) :
    sMaxLen recBits W.buckets rows = maxLen W (rows.map recRow) := by
  unfold sMaxLen maxLen
  congr 1
  funext acc b
  rw [sBucketValues_length]

theorem sColumn_rec (ρ : Path → Masks Bool) (W : Widths) (rows : List (SRow SW)) (ml b : Nat) :
    (sColumn (shareAlg ρ) recBits W.vW rows ml b).map recBits = column (rows.map recRow) ml b := by
  rw [sColumn, column, List.map_append, List.map_reverse, sBucketValues_rec, List.length_reverse, List.length_reverse,
    List.map_replicate, sBucketValues_length]
  congr 2
  exact recBits_zeros W.vW

theorem sColumn_good (ρ : Path → Masks Bool) (W : Widths) (rows : List (SRow SW)) (h : ∀ r ∈ rows, GoodRow W r)
    (ml b : Nat) : ∀ v ∈ sColumn (shareAlg ρ) recBits W.vW rows ml b, AllC v ∧ v.length = W.vW := fun v hv => by
  rcases List.mem_append.mp hv with hv | hv
  · obtain ⟨r, hr, rfl⟩ := List.mem_map.mp (List.mem_reverse.mp hv)
    exact ⟨(h r (List.mem_filter.mp hr).1).2.1, (h r (List.mem_filter.mp hr).1).2.2.2⟩
  · rw [List.eq_of_mem_replicate hv]
    exact ⟨allC_zeros _, List.length_replicate⟩

/-- **per-shard histogram on shares** = value-level `shardHistogram` of the reconstructed rows. -/
theorem sShardHistogram_rec (ρ : Path → Masks Bool) (p : Path) (W : Widths) (hW : W.vW ≤ W.hvW) (chunk : Nat)
    (rows : List (SRow SW)) (h : ∀ r ∈ rows, GoodRow W r) :
    (∀ x ∈ sShardHistogram (shareAlg ρ) recBits p W chunk rows, AllC x ∧ x.length = W.hvW) ∧
    (sShardHistogram (shareAlg ρ) recBits p W chunk rows).length = W.buckets ∧
    (sShardHistogram (shareAlg ρ) recBits p W chunk rows).map recBits = shardHistogram W chunk (rows.map recRow) := by
  have key := fun b => sChunkedAgg_bits ρ (p ++ [b]) W.hvW chunk
    (sColumn (shareAlg ρ) recBits W.vW rows (sMaxLen recBits W.buckets rows) b).length 0 W.vW
    (sColumn (shareAlg ρ) recBits W.vW rows (sMaxLen recBits W.buckets rows) b) hW
    (fun r hr => (sColumn_good ρ W rows h _ b r hr).1) (fun r hr => (sColumn_good ρ W rows h _ b r hr).2)
  refine ⟨fun x hx => ?_, by rw [sShardHistogram, List.length_map, List.length_range], ?_⟩
  · obtain ⟨b, _, rfl⟩ := List.mem_map.mp hx
    exact ⟨(key b).1, (key b).2.1⟩
  · rw [sShardHistogram, List.map_map]
    exact List.map_congr_left fun b _ => by
      rw [Function.comp, (key b).2.2, ← List.length_map (f := recBits), sColumn_rec, sMaxLen_rec]

theorem sat_add_bits (ρ : Path → Masks Bool) (p : Path) (n : Nat) (x y : List SW)
    (hx : AllC x ∧ x.length = n) (hy : AllC y ∧ y.length = n) :
    (AllC (integerSatAdd (shareAlg ρ) p x y) ∧ (integerSatAdd (shareAlg ρ) p x y).length = n) ∧
    recBits (integerSatAdd (shareAlg ρ) p x y) = satAdd (2 ^ n - 1) (recBits x) (recBits y) := by
  obtain ⟨h1, h2⟩ := sat_add_shares_value ρ p x y hx.1 hy.1
  refine ⟨⟨h1, ?_⟩, ?_⟩
  · rw [← List.length_map (f := recB), (sat_add_shares ρ p x y hx.1 hy.1).2, satAdd_length, List.length_map, hx.2]
  · rw [recBits_eq, h2, hx.2, Nat.mod_eq_of_lt (hy.2 ▸ recBits_lt y)]
    rfl

def mergeV (W : Widths) (acc h : List Nat) : List Nat :=
  (List.range W.buckets).map (fun b => satAdd (2 ^ W.hvW - 1) (acc.getD b 0) (h.getD b 0))

theorem finalize_eq_foldl_mergeV (W : Widths) (hists : List (List Nat)) :
    finalize W hists = hists.foldl (mergeV W) (List.replicate W.buckets 0) := rfl

theorem getElem_mergeV (W : Widths) (acc h : List Nat) (i : Nat) (hi : i < (mergeV W acc h).length)
    (ha : i < acc.length) (hh : i < h.length) :
    (mergeV W acc h)[i] = satAdd (2 ^ W.hvW - 1) acc[i] h[i] := by
  simp only [mergeV, List.getElem_map, List.getElem_range, List.getD_eq_getElem?_getD, List.getElem?_eq_getElem ha,
    List.getElem?_eq_getElem hh, Option.getD_some]

theorem length_mergeV (W : Widths) (acc h : List Nat) : (mergeV W acc h).length = W.buckets := by
  rw [mergeV, List.length_map, List.length_range]

theorem sMerge_rec (ρ : Path → Masks Bool) (p : Path) (W : Widths) (acc h : List (List SW))
    (ha : GoodHist W acc) (hh : GoodHist W h) :
    GoodHist W (sMerge (shareAlg ρ) p acc h) ∧
    (sMerge (shareAlg ρ) p acc h).map recBits = mergeV W (acc.map recBits) (h.map recBits) := by
  obtain ⟨la, ga⟩ := ha
  obtain ⟨lh, gh⟩ := hh
  have hlen : (sMerge (shareAlg ρ) p acc h).length = W.buckets := by
    rw [sMerge, List.length_zipWith, la, lh, Nat.min_self]
  refine ⟨⟨hlen, fun z hz => ?_⟩, ?_⟩
  · obtain ⟨i, hi, rfl⟩ := List.getElem_of_mem hz
    simp only [sMerge, List.getElem_zipWith]
    exact (sat_add_bits ρ p W.hvW _ _ (ga _ (List.getElem_mem _)) (gh _ (List.getElem_mem _))).1
  apply List.ext_getElem
  · rw [List.length_map, hlen, length_mergeV]
  · intro i h1 h2
    have hia : i < acc.length := by rw [la, ← length_mergeV W (acc.map recBits) (h.map recBits)]; exact h2
    have hih : i < h.length := by rw [lh, ← la]; exact hia
    rw [List.getElem_map, getElem_mergeV W _ _ i h2 (by rw [List.length_map]; exact hia) (by rw [List.length_map]; exact hih),
      List.getElem_map, List.getElem_map]
    simp only [sMerge, List.getElem_zipWith]
    exact (sat_add_bits ρ p W.hvW _ _ (ga _ (List.getElem_mem hia)) (gh _ (List.getElem_mem hih))).2

theorem mergeV_zero (W : Widths) (l : List Nat) (hl : l.length = W.buckets) (hm : ∀ x ∈ l, x ≤ 2 ^ W.hvW - 1) :
    mergeV W (List.replicate W.buckets 0) l = l := by
  apply List.ext_getElem
  · rw [length_mergeV, hl]
  · intro i h1 h2
    rw [getElem_mergeV W _ _ i h1 (by rw [List.length_replicate, ← hl]; exact h2) h2, List.getElem_replicate, satAdd,
      Nat.zero_add, Nat.min_eq_left (hm _ (List.getElem_mem h2))]

theorem sFinalize_fold (ρ : Path → Masks Bool) (p : Path) (W : Widths) :
    ∀ (followers : List (List (List SW))) (is : List Nat) (acc : List (List SW)), followers.length ≤ is.length →
      (∀ h ∈ followers, GoodHist W h) → GoodHist W acc →
      GoodHist W ((List.zip is followers).foldl (fun acc ih => sMerge (shareAlg ρ) (p ++ [ih.1]) acc ih.2) acc) ∧
      ((List.zip is followers).foldl (fun acc ih => sMerge (shareAlg ρ) (p ++ [ih.1]) acc ih.2) acc).map recBits
        = (followers.map (List.map recBits)).foldl (mergeV W) (acc.map recBits)
  | [], is, acc, _, _, ha => by
    rw [List.zip_nil_right]
    exact ⟨ha, rfl⟩
  | h :: F, [], acc, hlen, _, _ => nomatch hlen
  | h :: F, i :: is, acc, hlen, hF, ha => by
    obtain ⟨g1, g2⟩ := sMerge_rec ρ (p ++ [i]) W acc h ha (hF h List.mem_cons_self)
    rw [List.zip_cons_cons, List.foldl_cons, List.map_cons, List.foldl_cons, ← g2]
    exact sFinalize_fold ρ p W F is _ (Nat.le_of_succ_le_succ hlen) (fun x hx => hF x (List.mem_cons_of_mem _ hx)) g1

/-- **finalize on shares** (`Histogram::merge` = `integer_sat_add` of every follower into the leader)
reconstructs to the value-level `Hybrid.finalize`. -/
theorem sFinalize_rec (ρ : Path → Masks Bool) (p : Path) (W : Widths) (hists : List (List (List SW)))
    (hne : hists ≠ []) (hg : ∀ h ∈ hists, GoodHist W h) :
    GoodHist W (sFinalize (shareAlg ρ) p W hists) ∧
    (sFinalize (shareAlg ρ) p W hists).map recBits = finalize W (hists.map (List.map recBits)) := by
  match hists, hne, hg with
  | L :: F, _, hg =>
    have hL := hg L List.mem_cons_self
    obtain ⟨r1, r2⟩ := sFinalize_fold ρ p W F (List.range F.length) L (by rw [List.length_range])
      (fun x hx => hg x (List.mem_cons_of_mem _ hx)) hL
    refine ⟨r1, ?_⟩
    -- the value-level fold starts from zeros and absorbs the leader first
    have h0 : mergeV W (List.replicate W.buckets 0) (L.map recBits) = L.map recBits :=
      mergeV_zero W _ (by rw [List.length_map, hL.1]) fun x hx => by
        obtain ⟨y, hy, rfl⟩ := List.mem_map.mp hx
        exact Nat.le_sub_one_of_lt ((hL.2 y hy).2 ▸ recBits_lt y)
    rw [finalize_eq_foldl_mergeV, List.map_cons, List.foldl_cons, h0]
    exact r2

end IpaVerif.C01
