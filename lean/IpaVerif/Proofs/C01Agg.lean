import IpaVerif.Model.HybridShares
/-! Tree / chunked saturating aggregation computes `min (sum) m`: a saturation under an outer saturation may be
dropped (`min_add_left`). -/
namespace IpaVerif.C01
open IpaVerif.Hybrid IpaVerif.HybridShares

theorem min_add_left (m a b : Nat) : min (min a m + b) m = min (a + b) m := by
  rcases Nat.le_total a m with h | h
  · rw [Nat.min_eq_left h]
  · rw [Nat.min_eq_right h, Nat.min_eq_right (Nat.le_add_right m b),
      Nat.min_eq_right (Nat.le_trans h (Nat.le_add_right a b))]

theorem min_add_right (m a b : Nat) : min (a + min b m) m = min (a + b) m := by
  rw [Nat.add_comm, min_add_left, Nat.add_comm]

theorem min_add_congr (m a : Nat) {b b' : Nat} (h : min b m = min b' m) : min (a + b) m = min (a + b') m := by
  rw [← min_add_right, h, min_add_right]

theorem sum_min_map {α : Type} (m : Nat) (f : α → Nat) : ∀ rs : List α,
    min ((rs.map (fun r => min (f r) m)).sum) m = min ((rs.map f).sum) m
  | [] => rfl
  | r :: rs => by
      rw [List.map_cons, List.sum_cons, min_add_left, List.map_cons, List.sum_cons]
      exact min_add_congr m (f r) (sum_min_map m f rs)

theorem sum_flatten : ∀ L : List (List Nat), L.flatten.sum = (L.map List.sum).sum
  | [] => rfl
  | c :: L => by rw [List.flatten_cons, List.sum_append, sum_flatten L, List.map_cons, List.sum_cons]

theorem aggLevel_length (m : Nat) : ∀ l : List Nat, 2 * (aggLevel m l).length ≤ l.length + 1
  | [] => Nat.zero_le _
  | [_] => Nat.le_refl _
  | a :: b :: rest => by
      have ih := aggLevel_length m rest
      rw [aggLevel, List.length_cons, List.length_cons, List.length_cons]
      omega

theorem aggLevel_sum_min (m : Nat) : ∀ l : List Nat, min (aggLevel m l).sum m = min l.sum m
  | [] => rfl
  | [_] => rfl
  | a :: b :: rest => by
      rw [aggLevel, List.sum_cons, satAdd, min_add_left, List.sum_cons, List.sum_cons, ← Nat.add_assoc]
      exact min_add_congr m (a + b) (aggLevel_sum_min m rest)

theorem aggTree_step (m fuel a b : Nat) (rest : List Nat) :
    aggTree m (fuel + 1) (a :: b :: rest) = aggTree m fuel (aggLevel m (a :: b :: rest)) := rfl

theorem aggTree_eq (m : Nat) : ∀ (fuel : Nat) (l : List Nat), l.length ≤ fuel + 1 → aggTree m fuel l = min l.sum m
  | _, [], _ => by rw [aggTree, List.sum_nil, Nat.zero_min]
  | _, [a], _ => by rw [aggTree, List.sum_cons, List.sum_nil, Nat.add_zero]
  | 0, a :: b :: rest, h => by simp at h
  | fuel + 1, a :: b :: rest, h => by
      have hlen := aggLevel_length m (a :: b :: rest)
      rw [List.length_cons, List.length_cons] at h hlen
      rw [aggTree_step, aggTree_eq m fuel _ (by omega), aggLevel_sum_min]

theorem chunksG_eq (n fuel : Nat) (l : List Nat) : chunksG n fuel l = chunks n fuel l := by
  fun_induction chunks n fuel l with
  | case1 => rw [chunksG]
  | case2 l h => rw [chunksG]; exact h
  | case3 fuel l h ih => rw [chunksG, ih]; exact h

theorem chunksG_flatten {β : Type} (n fuel : Nat) (l : List β) : (chunksG n fuel l).flatten = l := by
  fun_induction chunksG n fuel l with
  | case1 => rfl
  | case2 => exact List.append_nil _
  | case3 fuel l _ ih => rw [List.flatten_cons, ih, List.take_append_drop]

theorem chunks_length (n : Nat) (hn : 2 ≤ n) :
    ∀ (fuel : Nat) (l : List Nat), l.length ≤ fuel → 2 * (chunks n fuel l).length ≤ l.length + 1
  | _, [], _ => by simp [chunks]
  | 0, a :: rest, h => by simp at h
  | fuel + 1, a :: rest, h => by
      rw [List.length_cons] at h
      have hd : ((a :: rest).drop n).length = rest.length + 1 - n := by rw [List.length_drop, List.length_cons]
      have ih := chunks_length n hn fuel ((a :: rest).drop n) (by omega)
      simp only [chunks, List.length_cons]
      omega

theorem chunkedAgg_step (m chunk fuel a b : Nat) (rest : List Nat) :
    chunkedAgg m chunk (fuel + 1) (a :: b :: rest) = chunkedAgg m chunk fuel
      ((chunks (max chunk 2) (a :: b :: rest).length (a :: b :: rest)).map (fun c => aggTree m c.length c)) := rfl

theorem chunkedAgg_eq (m chunk : Nat) :
    ∀ (fuel : Nat) (l : List Nat), l.length ≤ fuel + 1 → chunkedAgg m chunk fuel l = min l.sum m
  | _, [], _ => by rw [chunkedAgg, List.sum_nil, Nat.zero_min]
  | _, [a], _ => by rw [chunkedAgg, List.sum_cons, List.sum_nil, Nat.add_zero]
  | 0, a :: b :: rest, h => by simp at h
  | fuel + 1, a :: b :: rest, h => by
      rw [chunkedAgg_step]
      generalize a :: b :: rest = l at h ⊢
      have hlen := chunks_length (max chunk 2) (Nat.le_max_right _ _) l.length l (Nat.le_refl _)
      rw [chunkedAgg_eq m chunk fuel _ (by rw [List.length_map]; omega),
        List.map_congr_left (fun c _ => aggTree_eq m c.length c (Nat.le_succ _)),
        sum_min_map m List.sum, ← sum_flatten, ← chunksG_eq, chunksG_flatten]

def bucketSum (rows : List Row) (b : Nat) : Nat := (bucketValues rows b).sum

theorem bucketSum_append (r1 r2 : List Row) (b : Nat) :
    bucketSum (r1 ++ r2) b = bucketSum r1 b + bucketSum r2 b := by
  simp only [bucketSum, bucketValues, List.filter_append, List.map_append, List.sum_append]

theorem bucketSum_flatten (b : Nat) : ∀ rs : List (List Row),
    bucketSum rs.flatten b = (rs.map (fun r => bucketSum r b)).sum
  | [] => rfl
  | r :: rs => by rw [List.flatten_cons, bucketSum_append, bucketSum_flatten b rs, List.map_cons, List.sum_cons]

theorem column_sum (rows : List Row) (ml b : Nat) : (column rows ml b).sum = bucketSum rows b := by
  simp [column, bucketSum, List.sum_reverse]

theorem shardHistogram_eq (w : Widths) (chunk : Nat) (rows : List Row) :
    shardHistogram w chunk rows = (List.range w.buckets).map (fun b => min (bucketSum rows b) (2 ^ w.hvW - 1)) :=
  List.map_congr_left fun b _ => by rw [chunkedAgg_eq _ _ _ _ (Nat.le_succ _), column_sum]

theorem getD_map_range (g : Nat → Nat) (n b : Nat) (h : b < n) : ((List.range n).map g).getD b 0 = g b := by
  rw [List.getD_eq_getElem?_getD, List.getElem?_map, List.getElem?_range h]; rfl

theorem foldl_map_range (B : Nat) (op : Nat → Nat → Nat) : ∀ (hists : List (List Nat)) (g : Nat → Nat),
    hists.foldl (fun acc h => (List.range B).map (fun b => op (acc.getD b 0) (h.getD b 0))) ((List.range B).map g)
      = (List.range B).map (fun b => hists.foldl (fun a h => op a (h.getD b 0)) (g b))
  | [], _ => rfl
  | h :: hs, g => by
      rw [List.foldl_cons, List.map_congr_left (g := fun b => op (g b) (h.getD b 0))
        (fun b hb => by rw [getD_map_range g B b (List.mem_range.mp hb)])]
      exact foldl_map_range B op hs _

theorem foldl_satAdd {α : Type} (m : Nat) (f : α → Nat) : ∀ (xs : List α) (a : Nat), a ≤ m →
    xs.foldl (fun a x => satAdd m a (f x)) a = min (a + (xs.map f).sum) m
  | [], a, ha => (Nat.min_eq_left ha).symm
  | x :: xs, a, _ => by
      rw [List.foldl_cons, foldl_satAdd m f xs (satAdd m a (f x)) (Nat.min_le_right _ _), satAdd, min_add_left, List.map_cons,
        List.sum_cons, Nat.add_assoc]

/-- the order in which trees, chunks and shards add does not matter. -/
theorem satAdd_comm (m a b : Nat) : satAdd m a b = satAdd m b a := by
  rw [satAdd, satAdd, Nat.add_comm]

theorem satAdd_assoc (m a b c : Nat) : satAdd m (satAdd m a b) c = satAdd m a (satAdd m b c) := by
  simp only [satAdd]
  rw [min_add_left, min_add_right, Nat.add_assoc]

theorem satAdd_min (m a b : Nat) : satAdd m (min a m) (min b m) = min (a + b) m := by
  rw [satAdd, min_add_left, min_add_right]

theorem finalize_eq (w : Widths) (hists : List (List Nat)) :
    finalize w hists = (List.range w.buckets).map
      (fun b => min ((hists.map (fun h => h.getD b 0)).sum) (2 ^ w.hvW - 1)) := by
  have h0 : List.replicate w.buckets 0 = (List.range w.buckets).map (fun _ => 0) := by
    rw [List.map_const', List.length_range]
  rw [finalize, h0, foldl_map_range]
  exact List.map_congr_left fun b _ => by rw [foldl_satAdd _ _ _ _ (Nat.zero_le _), Nat.zero_add]

/-- Tree aggregation per shard followed by the cross-shard finalizer computes, per bucket, the saturated
total over all shards' rows. -/
theorem finalize_shardHistograms (w : Widths) (chunk : Nat) (shardRows : List (List Row)) :
    finalize w (shardRows.map (shardHistogram w chunk))
      = (List.range w.buckets).map (fun b => min (bucketSum shardRows.flatten b) (2 ^ w.hvW - 1)) := by
  rw [finalize_eq]
  apply List.map_congr_left
  intro b hb
  rw [bucketSum_flatten, List.map_map,
    List.map_congr_left (g := fun r => min (bucketSum r b) (2 ^ w.hvW - 1))
      (fun r _ => by rw [Function.comp, shardHistogram_eq, getD_map_range _ _ _ (List.mem_range.mp hb)])]
  exact sum_min_map (2 ^ w.hvW - 1) (fun r => bucketSum r b) shardRows

end IpaVerif.C01
