import IpaVerif.Proofs.BatcherInv
/-! One `validate_record` call against the history. -/
namespace IpaVerif.Batcher

/-- What one `validate_record` call must satisfy with respect to the history. -/
def StepSpec (n : Nat) (s : State) (g : Ghost) (r : Nat) (res : State × VOut) : Prop :=
  match res with
  | (s', .notReady b) => b = r / s.rpb ∧ r < n ∧ r ∉ g.acc ∧ b ∉ g.closed ∧
      Inv n s' ⟨r :: g.acc, g.closed⟩ ∧
      ¬ (∀ j, j < tcOf n s.rpb b → b * s.rpb + j ∈ r :: g.acc)
  | (s', .ready b st) => b = r / s.rpb ∧ r < n ∧ r ∉ g.acc ∧ b ∉ g.closed ∧
      Inv n s' ⟨r :: g.acc, b :: g.closed⟩ ∧
      (∀ j, j < tcOf n s.rpb b → b * s.rpb + j ∈ r :: g.acc) ∧ 0 < tcOf n s.rpb b ∧ st.ctor = b
  | (s', .err _) => Inv n s' g
  | (s', .panic _) => Inv n s' g

/-- answered `Ready::No` / `Ready::Yes` -/
def VOut.isAccepted : VOut → Bool
  | .ready _ _ => true
  | .notReady _ => true
  | _ => false

structure CallSpec (n : Nat) (s : State) (g : Ghost) (r : Nat) (res : State × VOut) : Prop where
  step : StepSpec n s g r res
  accepted : s.total = .specified n → r < n → r ∉ g.acc → r / s.rpb ∉ g.closed → res.2.isAccepted = true

theorem StepSpec.fresh_batch {n s g r s' b st} (h : StepSpec n s g r (s', .ready b st)) : b ∉ g.closed :=
  h.2.2.2.1

theorem StepSpec.ctor_eq {n s g r s' b st} (h : StepSpec n s g r (s', .ready b st)) : st.ctor = b :=
  h.2.2.2.2.2.2.2

theorem StepSpec.legit {n s g r s' o} (h : StepSpec n s g r (s', o)) (ho : o.isAccepted = true) :
    r < n ∧ r ∉ g.acc ∧ r / s.rpb ∉ g.closed := by
  cases o with
  | notReady b => exact ⟨h.2.1, h.2.2.1, h.1 ▸ h.2.2.2.1⟩
  | ready b st => exact ⟨h.2.1, h.2.2.1, h.1 ▸ h.2.2.2.1⟩
  | err _ => cases ho
  | panic _ => cases ho

section
variable {s1 : State} {off bi tc ro : Nat} {b : BatchState} {bits : List Bool}

theorem markRecord_exceeds (h : ¬ ro < tc) : markRecord s1 off bi tc ro b bits =
    (setSlot s1 off (some { b with pendingRecords := bits }), .panic (.exceeds ro tc)) := by
  simp only [markRecord, h, not_false_eq_true, if_true]

theorem markRecord_notReady (h : ro < tc) (hc : b.pendingCount + 1 ≠ tc) : markRecord s1 off bi tc ro b bits =
    (setSlot s1 off (some { b with pendingRecords := bits.set ro true, pendingCount := b.pendingCount + 1 }),
      .notReady bi) := by
  simp only [markRecord, h, hc, not_true_eq_false, if_false]

theorem markRecord_ready (h : ro < tc) (hc : b.pendingCount + 1 = tc) (ha : allSet (bits.set ro true) tc = true) :
    markRecord s1 off bi tc ro b bits =
      (if off = 0 then { s1 with batches := (dropNones (s1.batches.drop 1) (s1.firstBatch + 1)).1,
                                 firstBatch := (dropNones (s1.batches.drop 1) (s1.firstBatch + 1)).2 }
        else setSlot s1 off none,
       .ready bi { b with pendingRecords := bits.set ro true, pendingCount := b.pendingCount + 1 }) := by
  simp only [markRecord, h, hc, ha, not_true_eq_false, if_false, if_true]
  split <;> rfl

end

theorem mark_spec {n s g off b} (hI : Inv n s g) (hslot : s.batches[off]? = some (some b))
    (htot : s.total = .specified n) (r : Nat) (hdiv : r / s.rpb = s.firstBatch + off)
    (bits : List Bool)
    (hget : ∀ j, bits.getD j false = b.pendingRecords.getD j false)
    (hcnt : bits.count true = b.pendingRecords.count true)
    (hlen : r - (s.firstBatch + off) * s.rpb < bits.length)
    (hunset : bits.getD (r - (s.firstBatch + off) * s.rpb) false = false) :
    CallSpec n s g r (markRecord s off (s.firstBatch + off) (tcOf n s.rpb (s.firstBatch + off))
      (r - (s.firstBatch + off) * s.rpb) b bits) := by
  have hb := hI.live off b hslot
  obtain ⟨hro, hrolt⟩ := offset_of_div hI.rpb_pos hdiv
  generalize r - (s.firstBatch + off) * s.rpb = ro at hlen hunset hro hrolt ⊢
  have hnotacc : r ∉ g.acc := fun hm => by
    have := (hb.bits ro).2 ⟨hrolt, hro.symm ▸ hm⟩
    rw [← hget, hunset] at this
    cases this
  have hnotclosed : s.firstBatch + off ∉ g.closed := fun hm => by
    rcases (hI.closed_iff _).1 hm with h | ⟨_, h⟩
    · exact absurd h (Nat.not_lt_of_ge (Nat.le_add_right _ _))
    · rw [Nat.add_sub_cancel_left, hslot] at h; cases h
  by_cases hge : tcOf n s.rpb (s.firstBatch + off) ≤ ro
  · rw [markRecord_exceeds (Nat.not_lt_of_ge hge)]
    refine ⟨?_, fun _ hrn => absurd (lt_tcOf.2 ⟨hrolt, hro.symm ▸ hrn⟩) (Nat.not_lt_of_ge hge)⟩
    refine inv_setSlot hI hslot _ g (fun _ h => h) (fun _ h => Or.inl h) (Or.inl rfl) (fun _ => by simp)
      (fun _ e => Option.some.inj e ▸ ⟨hb.ctor, ?_, fun j => ?_, hb.room⟩) nofun
    · show b.pendingCount = bits.count true
      rw [hcnt]; exact hb.count
    · show bits.getD j false = true ↔ _
      rw [hget]; exact hb.bits j
  have hlt := Nat.lt_of_not_le hge
  have hrn : r < n := hro ▸ (lt_tcOf.1 hlt).2
  have hbits2 : ∀ j, (bits.set ro true).getD j false = true ↔
      (j < s.rpb ∧ (s.firstBatch + off) * s.rpb + j ∈ r :: g.acc) := by
    intro j
    rw [getD_set_true hlen, hget, hb.bits j, List.mem_cons, ← hro]
    constructor
    · rintro (rfl | ⟨a, c⟩)
      · exact ⟨hrolt, Or.inl rfl⟩
      · exact ⟨a, Or.inr c⟩
    · rintro ⟨a, c | c⟩
      · exact Or.inl (Nat.add_left_cancel c)
      · exact Or.inr ⟨a, c⟩
  have hcount2 : (bits.set ro true).count true = b.pendingCount + 1 := by
    rw [count_set_true hlen hunset, hcnt, hb.count]
  obtain ⟨hle, hfull_iff⟩ := count_eq_tcOf_iff (n := n) hbits2
    fun x hx => (List.mem_cons.1 hx).elim (fun e => e ▸ hrn) (hI.acc_lt x)
  rw [hcount2] at hle hfull_iff
  have hsub : ∀ x, x ∈ g.acc → x ∈ r :: g.acc := fun x hx => List.mem_cons_of_mem _ hx
  have hnew : ∀ x, x ∈ r :: g.acc → x ∈ g.acc ∨ (x < n ∧ x / s.rpb = s.firstBatch + off) := fun x hx =>
    (List.mem_cons.1 hx).elim (fun e => Or.inr (e ▸ ⟨hrn, hdiv⟩)) Or.inl
  by_cases hfull : b.pendingCount + 1 = tcOf n s.rpb (s.firstBatch + off)
  · have hw : Whole n s.rpb (r :: g.acc) (s.firstBatch + off) :=
      ⟨Nat.lt_of_le_of_lt (Nat.zero_le _) hlt, hfull_iff.1 hfull⟩
    have hall := (allSet_iff _ _).2 fun j hj => (hbits2 j).2 ⟨(lt_tcOf.1 hj).1, hw.2 j hj⟩
    have hI' : Inv n (setSlot s off none) ⟨r :: g.acc, (s.firstBatch + off) :: g.closed⟩ :=
      inv_setSlot hI hslot none _ hsub hnew (Or.inr htot) (fun _ => by simp [or_comm]) nofun fun _ => hw
    rw [markRecord_ready hlt hfull hall]
    refine ⟨⟨hdiv.symm, hrn, hnotacc, hnotclosed, ?_, hw.2, hw.1, hb.ctor⟩, fun _ _ _ _ => rfl⟩
    split
    · next h0 => subst h0; exact inv_takeFront hslot hI'
    · exact hI'
  · rw [markRecord_notReady hlt hfull]
    refine ⟨⟨hdiv.symm, hrn, hnotacc, hnotclosed, ?_, fun hall => hfull (hfull_iff.2 hall)⟩,
      fun _ _ _ _ => rfl⟩
    exact inv_setSlot hI hslot _ ⟨r :: g.acc, g.closed⟩ hsub hnew (Or.inr htot) (fun _ => by simp)
      (fun _ e => Option.some.inj e ▸ ⟨hb.ctor, hcount2.symm, hbits2, Or.inl (Nat.lt_of_le_of_ne hle hfull)⟩) nofun

theorem mark_step {n s g off b} (hI : Inv n s g) (hslot : s.batches[off]? = some (some b))
    (htot : s.total = .specified n) (r : Nat) (hdiv : r / s.rpb = s.firstBatch + off)
    (bits : List Bool)
    (hget : ∀ j, bits.getD j false = b.pendingRecords.getD j false)
    (hcnt : bits.count true = b.pendingRecords.count true)
    (hlen : r - (s.firstBatch + off) * s.rpb < bits.length)
    (hunset : bits.getD (r - (s.firstBatch + off) * s.rpb) false = false) :
    StepSpec n s g r (markRecord s off (s.firstBatch + off) (tcOf n s.rpb (s.firstBatch + off))
      (r - (s.firstBatch + off) * s.rpb) b bits) :=
  (mark_spec hI hslot htot r hdiv bits hget hcnt hlen hunset).step

theorem validateRecord_noTotal {s : State} (h : s.total.count = none) (r : Nat) :
    validateRecord s r = (s, .err .missingTotal) := by
  unfold validateRecord; rw [h]

theorem validate_spec {n s g} (hI : Inv n s g) (r : Nat) : CallSpec n s g r (validateRecord s r) := by
  suffices main : s.total = .specified n → CallSpec n s g r (validateRecord s r) by
    rcases hI.total with ht | ht | ⟨ht, _⟩
    · exact main ht
    -- `indeterminate` / `unspecified`: no count, the call is refused
    all_goals
      rw [validateRecord_noTotal (congrArg Total.count ht)]
      exact ⟨hI, fun h => nomatch ht.symm.trans h⟩
  intro ht
  unfold validateRecord
  simp only [ht, Total.count, batchOffset, Nat.ne_of_gt hI.rpb_pos, if_false]
  by_cases hlt : r / s.rpb < s.firstBatch
  · rw [if_pos hlt]
    exact ⟨hI, fun _ _ _ hnc => absurd ((hI.closed_iff _).2 (Or.inl hlt)) hnc⟩
  rw [if_neg hlt]
  generalize hoff : r / s.rpb - s.firstBatch = off
  have hdiv : r / s.rpb = s.firstBatch + off := by omega
  obtain ⟨hro, hrolt⟩ := offset_of_div hI.rpb_pos hdiv
  by_cases hrange : n < (s.firstBatch + off) * s.rpb
  · simp only [hrange, if_true]
    exact ⟨hI, fun _ hrn => absurd (Nat.lt_of_le_of_lt (hro ▸ Nat.le_add_right _ _) hrn) (Nat.lt_asymm hrange)⟩
  simp only [hrange, if_false]
  have hI1 := inv_extend hI off
  obtain ⟨x, hx⟩ := extend_slot s off
  rw [List.getD_eq_getElem?_getD, hx, Option.getD_some]
  cases x with
  | none =>
    refine ⟨hI1, fun _ _ _ hnc => absurd ((hI1.closed_iff _).2 (Or.inr ⟨Nat.le_of_not_lt hlt, ?_⟩)) hnc⟩
    show (extend s off).batches[r / s.rpb - s.firstBatch]? = some none
    rw [hoff, hx]
  | some b =>
    dsimp only
    by_cases hgrow : b.pendingRecords.length ≤ r - (s.firstBatch + off) * s.rpb
    · have hl := Nat.lt_succ_of_le hgrow
      have := mark_spec hI1 hx ht r hdiv _ (fun j => getD_resize _ _ j hl) (count_resize _ _ hl)
        (by rw [length_resize _ _ hl]; exact Nat.lt_succ_self _)
        ((getD_resize _ _ _ hl).trans (getD_of_length_le hgrow))
      rw [if_pos hgrow]
      exact ⟨this.step, this.accepted⟩
    · rw [if_neg hgrow]
      cases hbit : b.pendingRecords.getD (r - (s.firstBatch + off) * s.rpb) false with
      | true =>
        have := ((hI1.live off b hx).bits _).1 hbit
        exact ⟨hI1, fun _ _ hna _ => absurd (hro ▸ this.2) hna⟩
      | false =>
        have := mark_spec hI1 hx ht r hdiv _ (fun _ => rfl) rfl (Nat.lt_of_not_le hgrow) hbit
        exact ⟨this.step, this.accepted⟩

theorem validate_step {n s g} (hI : Inv n s g) (r : Nat) : StepSpec n s g r (validateRecord s r) :=
  (validate_spec hI r).step

theorem Inv.closed_records {n s g} (hI : Inv n s g) {b : Nat} (hb : b ∈ g.closed) :
    ∀ r', r' < n → r' / s.rpb = b → r' ∈ g.acc :=
  (forall_offsets_iff_forall_records hI.rpb_pos _ b).1 (hI.closed_all b hb).2

theorem Inv.closed_of_records {n s g} (hI : Inv n s g) {b : Nat} (hb : b * s.rpb < n)
    (hall : ∀ r', r' < n → r' / s.rpb = b → r' ∈ g.acc) : b ∈ g.closed := by
  have hw : Whole n s.rpb g.acc b := ⟨lt_tcOf.2 ⟨hI.rpb_pos, hb⟩, (forall_offsets_iff_forall_records hI.rpb_pos _ b).2 hall⟩
  rw [hI.closed_iff b]
  by_cases h1 : b < s.firstBatch
  · exact Or.inl h1
  refine Or.inr ⟨Nat.le_of_not_lt h1, ?_⟩
  generalize hk : b - s.firstBatch = k
  obtain rfl : b = s.firstBatch + k := by omega
  cases hx : s.batches[k]? with
  | none =>
    -- the first record of the batch is accepted, so the deque reaches the batch
    have := hI.acc_where _ (hw.2 0 hw.1)
    rw [div_offset _ _ _ hI.rpb_pos] at this
    exact absurd (Nat.lt_of_add_lt_add_left this) (Nat.not_lt_of_ge (List.getElem?_eq_none_iff.1 hx))
  | some x =>
    cases x with
    | none => rfl
    | some bs =>
      -- a live slot is not complete
      have hs := hI.live k bs hx
      have := (count_eq_tcOf_iff hs.bits hI.acc_lt).2.2 hw.2
      rw [← hs.count] at this
      exact absurd hw.1 (hs.room.elim (fun h => absurd this (Nat.ne_of_lt h)) fun h => h ▸ Nat.lt_irrefl 0)

theorem inv_getBatchPush {n s g} (hI : Inv n s g) (r x : Nat) :
    Inv n (getBatchPush s r x).1 g ∧
    (r / s.rpb ∈ g.closed → ∃ p, (getBatchPush s r x).2 = .error p) ∧
    (∀ c pl, (getBatchPush s r x).2 = .ok (c, pl) → c = r / s.rpb) := by
  simp only [getBatchPush, batchOffset, Nat.ne_of_gt hI.rpb_pos, if_false]
  by_cases hlt : r / s.rpb < s.firstBatch
  · rw [if_pos hlt]
    exact ⟨hI, fun _ => ⟨_, rfl⟩, nofun⟩
  rw [if_neg hlt]
  generalize hoff : r / s.rpb - s.firstBatch = off
  have hI1 := inv_extend hI off
  obtain ⟨y, hy⟩ := extend_slot s off
  dsimp only
  rw [List.getD_eq_getElem?_getD, hy, Option.getD_some]
  cases y with
  | none => exact ⟨hI1, fun _ => ⟨_, rfl⟩, nofun⟩
  | some b =>
    have hs := hI1.live off b hy
    refine ⟨?_, fun hc => ?_, fun c pl h => ?_⟩
    · exact inv_setSlot hI1 hy _ g (fun _ h => h) (fun _ h => Or.inl h) (Or.inl rfl) (fun _ => by simp)
        (fun _ e => Option.some.inj e ▸ ⟨hs.ctor, hs.count, hs.bits, hs.room⟩) nofun
    · rcases (hI1.closed_iff (r / s.rpb)).1 hc with h | ⟨_, h⟩
      · exact absurd h hlt
      · rw [show r / s.rpb - (extend s off).firstBatch = off from hoff, hy] at h; cases h
    · rw [← (Prod.mk.inj (Except.ok.inj h)).1]
      exact hs.ctor.trans (by show s.firstBatch + off = _; omega)

def Frame (s : State) (res : State × VOut) : Prop :=
  ∃ bs f, res.1 = { s with batches := bs, firstBatch := f }

theorem Frame.ite {s : State} {c : Prop} [Decidable c] {x y : State × VOut} (hx : Frame s x) (hy : Frame s y) :
    Frame s (if c then x else y) := by
  split <;> assumption

theorem markRecord_frame (s1 : State) (off bi tc ro : Nat) (b : BatchState) (bits : List Bool) :
    Frame s1 (markRecord s1 off bi tc ro b bits) :=
  .ite ⟨_, _, rfl⟩ (.ite (.ite ⟨_, _, rfl⟩ (.ite ⟨_, _, rfl⟩ ⟨_, _, rfl⟩)) ⟨_, _, rfl⟩)

theorem validateRecord_frame (s : State) (r : Nat) : Frame s (validateRecord s r) := by
  unfold validateRecord
  cases s.total.count with
  | none => exact ⟨_, _, rfl⟩
  | some total =>
    cases batchOffset s r with
    | error p => exact ⟨_, _, rfl⟩
    | ok off =>
      refine .ite ⟨_, _, rfl⟩ ?_
      dsimp only
      cases (extend s off).batches.getD off none with
      | none => exact ⟨_, _, rfl⟩
      | some b => exact .ite (markRecord_frame ..) (.ite ⟨_, _, rfl⟩ (markRecord_frame ..))

theorem validateRecord_rpb (s : State) (r : Nat) : (validateRecord s r).1.rpb = s.rpb := by
  obtain ⟨_, _, h⟩ := validateRecord_frame s r
  rw [h]

theorem validateRecord_total (s : State) (r : Nat) : (validateRecord s r).1.total = s.total := by
  obtain ⟨_, _, h⟩ := validateRecord_frame s r
  rw [h]

theorem getBatchPush_rpb (s : State) (r x : Nat) : (getBatchPush s r x).1.rpb = s.rpb := by
  unfold getBatchPush
  split
  · rfl
  dsimp only
  split <;> rfl

theorem setTotal_rpb {s s' : State} {t} (h : setTotal s t = .ok s') : s'.rpb = s.rpb := by
  obtain ⟨_, _, rfl⟩ := setTotal_ok h
  rfl

end IpaVerif.Batcher
