import IpaVerif.Model.SeqJoin
/-!
C15: invariant of `SequentialFutures`.  One `poll_next` call is the refill loop followed by a poll of
the window `s1.active` it leaves.  The three models of the sequential join (this one, `SeqJoinMt`,
`ValidatedJoin`) keep the same invariant, `emitted ++ window ++ not yet drawn = List.range n`.
-/
namespace IpaVerif.SeqJoin

theorem range_eq_append {l r : List Nat} {n : Nat} (h : l ++ r = List.range n) :
    l = List.range l.length ∧ r = List.range' l.length r.length ∧ l.length + r.length = n := by
  obtain ⟨k, hk, rfl, rfl⟩ := List.range'_eq_append_iff.1 (List.range_eq_range'.symm.trans h.symm)
  simp [List.range_eq_range', Nat.add_sub_cancel' hk]

theorem range_append_cons_head {n i : Nat} {l1 l2 : List Nat} (h : l1 ++ i :: l2 = List.range n) : i = l1.length :=
  (List.range'_eq_cons_iff.1 (range_eq_append h).2.1.symm).1.symm

theorem eq_range_of_prefix {xs pre rest : List Nat} {n : Nat} (hx : xs = List.range xs.length)
    (hle : xs.length ≤ n) (hsplit : xs = pre ++ rest) (hpre : pre = List.range n) : xs = List.range n := by
  have hlen := congrArg List.length hsplit
  rw [hpre, List.length_append, List.length_range] at hlen
  exact hx.trans (congrArg List.range (Nat.le_antisymm hle (hlen ▸ Nat.le_add_right _ _)))

def ids (l : List Slot) : List Nat := l.map Slot.id

def Slot.isPending : Slot → Bool
  | .pending _ => true
  | .resolved _ => false

def pendingIds (l : List Slot) : List Nat := (l.filter Slot.isPending).map Slot.id

@[simp] theorem ids_nil : ids [] = [] := rfl
@[simp] theorem ids_cons (sl : Slot) (l : List Slot) : ids (sl :: l) = sl.id :: ids l := rfl
@[simp] theorem ids_append (l l' : List Slot) : ids (l ++ l') = ids l ++ ids l' := List.map_append
@[simp] theorem length_ids (l : List Slot) : (ids l).length = l.length := List.length_map _

theorem length_eq_of_ids {l l' : List Slot} (h : ids l = ids l') : l.length = l'.length := by
  simpa using congrArg List.length h

/-- `em ++ active ++ src` is the input order; the fused source is done only when drained; the
window never exceeds the capacity; resolved futures have been polled. -/
structure Inv (n : Nat) (s : State) (em : List Nat) : Prop where
  order : em ++ ids s.active ++ s.src = List.range n
  done : s.srcDone = true → s.src = []
  len : s.active.length ≤ s.cap
  resolved : ∀ i, Slot.resolved i ∈ s.active → i ∈ s.started

theorem inv_new (n cap : Nat) : Inv n (State.new n cap) [] :=
  ⟨rfl, nofun, Nat.zero_le _, nofun⟩

theorem inv_lengths {n s em} (hI : Inv n s em) : em.length + s.active.length + s.src.length = n := by
  simpa [Nat.add_assoc] using congrArg List.length hI.order

theorem in_flight_eq {n s em} (hI : Inv n s em) : n - s.src.length - em.length = s.active.length := by
  rw [← inv_lengths hI, Nat.add_sub_cancel, Nat.add_sub_cancel_left]

theorem Inv.pop {n s em sl rest} (hI : Inv n s em) (ha : s.active = sl :: rest) {st' : List Nat}
    (hst : ∀ x, x ∈ s.started → x ∈ st') :
    sl.id = em.length ∧ Inv n { s with active := rest, started := st' } (em ++ [sl.id]) := by
  have hord : em ++ sl.id :: (ids rest ++ s.src) = List.range n := by
    simpa [ha] using hI.order
  refine ⟨range_append_cons_head hord, by simpa using hord, hI.done, ?_, fun i hi => hst i (hI.resolved i ?_)⟩
  · have := hI.len
    rw [ha] at this
    exact Nat.le_of_succ_le this
  · rw [ha]; exact List.mem_cons_of_mem _ hi

theorem Inv.repoll {n s em} (hI : Inv n s em) {act' : List Slot} {st' : List Nat}
    (hids : ids act' = ids s.active) (hst : ∀ sl, sl ∈ act' → sl.id ∈ st') :
    Inv n { s with active := act', started := st' } em :=
  ⟨hids ▸ hI.order, hI.done, length_eq_of_ids hids ▸ hI.len, fun _ hi => hst _ hi⟩

theorem refill_spec {n : Nat} {em : List Nat} (fuel : Nat) (s : State) (pulled budget : Nat)
    (hI : Inv n s em) :
    let r := refill fuel s pulled budget
    Inv n r.1 em ∧ r.1.cap = s.cap ∧ r.1.started = s.started ∧
    r.2.2 + r.1.active.length = budget + s.active.length ∧
    (s.cap < fuel + s.active.length →
      r.1.active.length = s.cap ∨ r.1.src = [] ∨ (r.2.2 = 0 ∧ r.1.src ≠ [])) := by
  fun_induction refill fuel s pulled budget with
  | case1 s => exact ⟨hI, rfl, rfl, rfl, fun h => absurd hI.len (by omega)⟩
  | case2 _ s _ _ _ hd => exact ⟨hI, rfl, rfl, rfl, fun _ => .inr (.inl (hI.done hd))⟩
  | case3 _ s _ _ _ _ hs =>
    exact ⟨⟨hI.order, fun _ => hs, hI.len, hI.resolved⟩, rfl, rfl, rfl, fun _ => .inr (.inl hs)⟩
  | case4 _ s _ _ _ t rest hs =>
    exact ⟨hI, rfl, rfl, rfl, fun _ => .inr (.inr ⟨rfl, by simp [hs]⟩)⟩
  | case5 fuel s _ budget hlt hd t rest hs hb ih =>
    have hI' : Inv n { s with src := rest, active := s.active ++ [.pending t] } em :=
      ⟨by simpa [hs, Slot.id] using hI.order, fun h => absurd h hd,
       by simpa using Nat.succ_le_of_lt hlt,
       fun i hi => hI.resolved i (by simpa using hi)⟩
    obtain ⟨b', rfl⟩ := Nat.exists_eq_succ_of_ne_zero hb
    simp only [Nat.succ_sub_one] at ih ⊢
    obtain ⟨a, b, c, d, e⟩ := ih hI'
    simp only [List.length_append, List.length_singleton] at d e
    exact ⟨a, b, c, by omega, fun hf => e (by omega)⟩
  | case6 _ s _ _ hlt =>
    exact ⟨hI, rfl, rfl, rfl, fun _ => .inl (Nat.le_antisymm hI.len (Nat.not_lt.1 hlt))⟩

theorem refill_full {n : Nat} {em : List Nat} {s : State} (hI : Inv n s em) (pulled : Nat) {budget : Nat}
    (hb : s.cap ≤ budget) :
    (refill (s.cap + 1) s pulled budget).1.active.length = s.cap ∨ (refill (s.cap + 1) s pulled budget).1.src = [] := by
  obtain ⟨hI1, hcap, _, hbud, hstop⟩ := refill_spec (s.cap + 1) s pulled budget hI
  generalize refill (s.cap + 1) s pulled budget = r at *
  have hlen := hcap ▸ hI1.len
  rcases hstop (Nat.lt_add_right _ (Nat.lt_succ_self _)) with h | h | h
  · exact .inl h
  · exact .inr h
  · exact .inl (by omega)

theorem refill_ended {s : State} (fuel pulled budget : Nat) (ha : s.active = []) (hs : s.src = [])
    (hc : 0 < s.cap) :
    (refill (fuel + 1) s pulled budget).1.active = [] ∧ (refill (fuel + 1) s pulled budget).1.srcDone = true := by
  unfold refill
  rw [if_pos (ha ▸ hc), hs]
  split
  · exact ⟨ha, ‹_›⟩
  · exact ⟨ha, rfl⟩

def startNow (st : List Nat) (i : Nat) : List Nat := if st.contains i then st else st ++ [i]

theorem mem_startNow {st : List Nat} {i x : Nat} : x ∈ startNow st i ↔ x ∈ st ∨ x = i := by
  unfold startNow
  split
  · rename_i h
    exact ⟨.inl, fun hx => hx.elim id fun hx => hx ▸ List.contains_iff_mem.1 h⟩
  · simp

theorem checkReady_resolved (ready : List Nat → Nat → Bool) (st : List Nat) (i : Nat) :
    checkReady ready st (.resolved i) = (.resolved i, st, false) := rfl

theorem checkReady_pending (ready : List Nat → Nat → Bool) (st : List Nat) (i : Nat) :
    checkReady ready st (.pending i) =
      (if ready (startNow st i) i then .resolved i else .pending i, startNow st i, true) := rfl

theorem checkReady_spec (ready : List Nat → Nat → Bool) (st : List Nat) (sl : Slot) :
    let r := checkReady ready st sl
    r.1.id = sl.id ∧ r.2.2 = sl.isPending ∧ (∀ x, x ∈ st → x ∈ r.2.1) ∧
    ((∀ i, sl = .resolved i → i ∈ st) → sl.id ∈ r.2.1) := by
  cases sl with
  | resolved i => exact ⟨rfl, rfl, fun _ h => h, fun h => h i rfl⟩
  | pending i =>
    rw [checkReady_pending]
    refine ⟨?_, rfl, fun x h => mem_startNow.2 (.inl h), fun _ => mem_startNow.2 (.inr rfl)⟩
    dsimp only
    split <;> rfl

theorem checkRest_cons (ready : List Nat → Nat → Bool) (sl : Slot) (l : List Slot) (st : List Nat) :
    checkRest ready (sl :: l) st =
      let r := checkReady ready st sl
      let r' := checkRest ready l r.2.1
      (r.1 :: r'.1, r'.2.1, if r.2.2 then sl.id :: r'.2.2 else r'.2.2) := rfl

theorem checkRest_spec (ready : List Nat → Nat → Bool) : ∀ (l : List Slot) (st : List Nat),
    let r := checkRest ready l st
    ids r.1 = ids l ∧ r.2.2 = pendingIds l ∧ (∀ x, x ∈ st → x ∈ r.2.1) ∧
    ((∀ i, Slot.resolved i ∈ l → i ∈ st) → ∀ sl, sl ∈ r.1 → sl.id ∈ r.2.1) := by
  intro l
  induction l with
  | nil => intro st; exact ⟨rfl, rfl, fun _ h => h, nofun⟩
  | cons sl l ih =>
    intro st
    obtain ⟨c1, c2, c3, c4⟩ := checkReady_spec ready st sl
    obtain ⟨i1, i2, i3, i4⟩ := ih (checkReady ready st sl).2.1
    rw [checkRest_cons]
    refine ⟨by simp only [ids_cons, c1, i1], ?_, fun x hx => i3 x (c3 x hx), fun hres sl' hsl' => ?_⟩
    · dsimp only
      rw [c2, i2]
      cases sl <;> rfl
    · rcases List.mem_cons.1 hsl' with rfl | h
      · rw [c1]
        exact i3 _ (c4 fun i hi => hres i (hi ▸ List.mem_cons_self))
      · exact i4 (fun i hi => c3 i (hres i (List.mem_cons_of_mem _ hi))) sl' h

section step
variable {s s1 : State} {env : Env} {pulled b : Nat}
  (hr : refill (s.cap + 1) s 0 env.budget = (s1, pulled, b))
include hr

theorem step_empty (ha : s1.active = []) :
    step s env =
      (s1, { out := if s1.srcDone then .finished else .pending, polled := [], pulled := pulled }) := by
  simp only [step, hr, ha]

theorem step_resolved {i : Nat} {rest : List Slot} (ha : s1.active = .resolved i :: rest) :
    step s env = ({ s1 with active := rest }, { out := .item i, polled := [], pulled := pulled }) := by
  simp only [step, hr, ha, checkReady_resolved]
  rfl

theorem step_ready {i : Nat} {rest : List Slot} (ha : s1.active = .pending i :: rest)
    (hi : env.ready (startNow s1.started i) i = true) :
    step s env = ({ s1 with active := rest, started := startNow s1.started i },
      { out := .item i, polled := [i], pulled := pulled }) := by
  simp only [step, hr, ha, checkReady_pending, hi]
  rfl

theorem step_blocked {i : Nat} {rest rest' : List Slot} {st' ps : List Nat}
    (ha : s1.active = .pending i :: rest) (hi : env.ready (startNow s1.started i) i = false)
    (hc : checkRest env.ready rest (startNow s1.started i) = (rest', st', ps)) :
    step s env = ({ s1 with active := .pending i :: rest', started := st' },
      { out := .pending, polled := i :: ps, pulled := pulled }) := by
  simp only [step, hr, ha, checkReady_pending, hi, hc]
  rfl

end step

theorem step_finished_of_drained {s : State} (env : Env) (ha : s.active = []) (hs : s.src = []) (hc : 0 < s.cap) :
    (step s env).2.out = .finished := by
  have hend := refill_ended s.cap 0 env.budget ha hs hc
  rcases hr : refill (s.cap + 1) s 0 env.budget with ⟨s1, pulled, b⟩
  rw [hr] at hend
  rw [step_empty hr hend.1]
  exact if_pos hend.2

structure PendingSpec (n : Nat) (s : State) (em : List Nat) (env : Env) (w : List Slot) (r : State × Obs) :
    Prop where
  inv : Inv n r.1 em
  started : ∀ sl, sl ∈ r.1.active → sl.id ∈ r.1.started
  polled : r.2.polled = pendingIds w
  full : s.cap ≤ env.budget → r.1.active.length = s.cap ∨ r.1.src = []
  head_blocked : ∀ front rest, w = front :: rest →
    ∃ st', (∀ x, x ∈ s.started → x ∈ st') ∧ env.ready st' front.id = false

structure StepSpec (n : Nat) (s : State) (em : List Nat) (env : Env) (w : List Slot) (r : State × Obs) :
    Prop where
  cap : r.1.cap = s.cap
  item : ∀ i, r.2.out = .item i → i = em.length ∧ Inv n r.1 (em ++ [i])
  pending : r.2.out = .pending → PendingSpec n s em env w r
  finished : r.2.out = .finished → Inv n r.1 em ∧ em = List.range n

theorem step_spec {n : Nat} {s : State} {em : List Nat} (hI : Inv n s em) (env : Env) :
    ∀ r, step s env = r → StepSpec n s em env (refill (s.cap + 1) s 0 env.budget).1.active r := by
  intro r hstep
  obtain ⟨hI1, hcap, hst, _⟩ := refill_spec (s.cap + 1) s 0 env.budget hI
  have hfull := refill_full hI 0 (budget := env.budget)
  rcases hr : refill (s.cap + 1) s 0 env.budget with ⟨s1, pulled, b⟩
  simp only [hr] at hI1 hcap hst hfull ⊢
  cases ha : s1.active with
  | nil =>
    rw [step_empty hr ha] at hstep
    subst hstep
    cases hd : s1.srcDone with
    | false => exact ⟨hcap, nofun, fun _ => ⟨hI1, by simp [ha], rfl, hfull, nofun⟩, nofun⟩
    | true =>
      have hs := hI1.done hd
      exact ⟨hcap, nofun, nofun, fun _ => ⟨hI1, by simpa [ha, hs] using hI1.order⟩⟩
  | cons front rest =>
    cases front with
    | resolved i =>
      rw [step_resolved hr ha] at hstep
      subst hstep
      obtain ⟨hi, hI'⟩ := hI1.pop ha (st' := s1.started) fun _ h => h
      exact ⟨hcap, fun j hj => by cases hj; exact ⟨hi, hI'⟩, nofun, nofun⟩
    | pending i =>
      have hmono : ∀ x, x ∈ s1.started → x ∈ startNow s1.started i := fun x h => mem_startNow.2 (.inl h)
      cases hi : env.ready (startNow s1.started i) i with
      | true =>
        rw [step_ready hr ha hi] at hstep
        subst hstep
        obtain ⟨hid, hI'⟩ := hI1.pop ha hmono
        exact ⟨hcap, fun j hj => by cases hj; exact ⟨hid, hI'⟩, nofun, nofun⟩
      | false =>
        obtain ⟨r1, r2, r3, r4⟩ := checkRest_spec env.ready rest (startNow s1.started i)
        rcases hc : checkRest env.ready rest (startNow s1.started i) with ⟨rest', st', ps⟩
        rw [hc] at r1 r2 r3 r4
        rw [step_blocked hr ha hi hc] at hstep
        subst hstep
        have hall : ∀ sl, sl ∈ Slot.pending i :: rest' → sl.id ∈ st' := by
          intro sl hsl
          rcases List.mem_cons.1 hsl with rfl | h
          · exact r3 _ (mem_startNow.2 (.inr rfl))
          · exact r4 (fun j hj => hmono j (hI1.resolved j (ha ▸ List.mem_cons_of_mem _ hj))) sl h
        have hids : ids (Slot.pending i :: rest') = ids s1.active := by rw [ha, ids_cons, ids_cons, r1]
        refine ⟨hcap, nofun, fun _ => ⟨hI1.repoll hids hall, hall, congrArg (i :: ·) r2, fun hb => ?_, ?_⟩, nofun⟩
        · exact length_eq_of_ids hids ▸ hfull hb
        · intro f0 r0 h0
          cases h0
          exact ⟨_, fun x hx => hmono x (hst ▸ hx), hi⟩

def items : List Obs → List Nat
  | [] => []
  | o :: os => (match o.out with | .item i => [i] | _ => []) ++ items os

theorem items_append (a b : List Obs) : items (a ++ b) = items a ++ items b := by
  induction a with
  | nil => rfl
  | cons x xs ih => simp only [List.cons_append, items, ih, List.append_assoc]

theorem run_cons (s : State) (e : Env) (es : List Env) :
    run s (e :: es) = ((run (step s e).1 es).1, (step s e).2 :: (run (step s e).1 es).2) := rfl

theorem step_inv {n : Nat} {s : State} {em : List Nat} (hI : Inv n s em) (env : Env) :
    Inv n (step s env).1 (em ++ items [(step s env).2]) := by
  obtain ⟨_, hitem, hpend, hfin⟩ := step_spec hI env _ rfl
  unfold items
  cases ho : (step s env).2.out with
  | item i => exact (hitem i ho).2
  | pending => exact (List.append_nil em).symm ▸ (hpend ho).inv
  | finished => exact (List.append_nil em).symm ▸ (hfin ho).1

theorem run_spec {n : Nat} : ∀ (envs : List Env) (s : State) (em : List Nat), Inv n s em →
    Inv n (run s envs).1 (em ++ items (run s envs).2) ∧ (run s envs).1.cap = s.cap ∧
    (∀ pre o post, (run s envs).2 = pre ++ o :: post → o.out = .finished → em ++ items pre = List.range n) := by
  intro envs
  induction envs with
  | nil =>
    intro s em hI
    exact ⟨by simpa [run, items] using hI, rfl, fun pre o post h => by simp [run] at h⟩
  | cons e es ih =>
    intro s em hI
    obtain ⟨hc, _, _, hfin⟩ := step_spec hI e _ rfl
    rw [run_cons]
    obtain ⟨i1, i2, i3⟩ := ih _ _ (step_inv hI e)
    refine ⟨?_, i2.trans hc, fun pre o' post hsplit hfin' => ?_⟩
    · rw [List.append_assoc, ← items_append] at i1; exact i1
    · cases pre with
      | nil =>
        obtain ⟨rfl, _⟩ := List.cons.inj hsplit
        simpa [items] using (hfin hfin').2
      | cons p pre' =>
        obtain ⟨rfl, h2⟩ := List.cons.inj hsplit
        have := i3 pre' o' post h2 hfin'
        rwa [List.append_assoc, ← items_append] at this

end IpaVerif.SeqJoin
