import IpaVerif.Proofs.C09Bytes
/-! The little-endian byte round trip of a store value that fits its store, shared by the serialisation
theorems of the binary fields and the Boolean arrays. -/
namespace IpaVerif.C08

theorem ofLeBytes_leBytes_of_fit {bits n a : Nat} (hfit : bits ≤ 8 * n) (ha : a < 2 ^ bits) :
    Util.ofLeBytes (Util.leBytes a n) = a := by
  have h : 2 ^ bits ≤ 256 ^ n := Nat.pow_mul 2 8 n ▸ Nat.pow_le_pow_right (by decide) hfit
  rw [C09.ofLeBytes_leBytes, Nat.mod_eq_of_lt (Nat.lt_of_lt_of_le ha h)]

end IpaVerif.C08
