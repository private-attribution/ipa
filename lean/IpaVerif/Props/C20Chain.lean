import IpaVerif.Props.C20
import IpaVerif.Generated.AcceptCert
/-!
# C20 — under TLS the identity comes only from the certificate the caller proved possession of

A TLS client presents a *chain*: a list of certificates of its choosing. The handshake
authenticates the first one only (webpki validates it against the trust anchors, CertificateVerify
proves possession of its key); everything after it is unauthenticated bytes.
`ClientCertRecognizingAcceptor::accept` hands `peer_certificates().first()` — and nothing else — to
`identify_cert`.
-/
namespace IpaVerif.C20Chain
open IpaVerif.Auth IpaVerif.Generated.Routes IpaVerif.C20

/-- Regenerated from `accept` and `identify_cert` on every run: the certificate
handed to `identify_cert` is `peer_certificates().and_then(<[_]>::first)`, `identify_cert` is applied
exactly once and its result alone becomes the `ClientIdentity`, and `identify_cert` compares by exact
DER equality in peer order. -/
theorem accept_selection_ok :
    IpaVerif.Generated.AcceptCert.acceptSelect
      = { firstOnly := true, identifyOnce := true, exactMatch := true, recognised := true } := by
  decide

/-- For every `identify`, every authenticated head `c` and
all tails `t`, `t'` (whatever the caller appends, in whatever order, of whatever length):
the identity is `identify (some c)`; it does not change with the tail; a head that is not on file
leaves the caller anonymous whatever certificates of real peers follow it; no certificate at all ⇒
`identify none`. All five are the definition of `acceptFirst` read off; that the code's `accept` is
`acceptFirst` is `accept_selection_ok`, and what it means for a connection is `live_chain_*`. -/
theorem identity_from_authenticated_cert_only {Cert Ident : Type} (identify : Option Cert → Option Ident) :
    (∀ (c : Cert) (t : List Cert), acceptFirst identify (c :: t) = identify (some c)) ∧
    (∀ (c : Cert) (t t' : List Cert), acceptFirst identify (c :: t) = acceptFirst identify (c :: t')) ∧
    (∀ (c : Cert) (t t' : List Cert), t.Perm t' → acceptFirst identify (c :: t) = acceptFirst identify (c :: t')) ∧
    (∀ (c : Cert) (t : List Cert), identify (some c) = none → acceptFirst identify (c :: t) = none) ∧
    acceptFirst identify [] = identify none :=
  ⟨fun _ _ => rfl, fun _ _ _ => rfl, fun _ _ _ _ => rfl, fun _ _ h => h, rfl⟩

/-- `identify_cert` answers only for a certificate that is byte-identical to the one pinned for that
peer, and never without a certificate. -/
theorem identifyCert_exact {Cert Ident : Type} [DecidableEq Cert] (peers : List (Ident × Option Cert)) :
    identifyCert peers none = none ∧
    (∀ (c : Cert) (id : Ident), identifyCert peers (some c) = some id → (id, some c) ∈ peers) ∧
    (∀ (c : Cert), (∀ p ∈ peers, p.2 ≠ some c) → identifyCert peers (some c) = none) := by
  refine ⟨rfl, ?_, ?_⟩
  · intro c id h
    obtain ⟨⟨i, oc⟩, hf, rfl⟩ := Option.map_eq_some_iff.mp h
    obtain rfl : oc = some c := by simpa using List.find?_some hf
    exact List.mem_of_find?_eq_some hf
  · intro c hall
    have : peers.find? (fun p => p.2 == some c) = none :=
      List.find?_eq_none.mpr fun p hp => by simpa using hall p hp
    exact congrArg (Option.map (·.1)) this

/-- An unpinned peer (`certificate: None`) never matches — in particular not a connection without
certificate. -/
example : identifyCert (testPeers .helper) none = none ∧ identifyCert (testPeers .helper) (some (.onFile 2)) = none := by decide

section
variable {Cert Key Ident : Type} [DecidableEq Key] (keyOf : Cert → Key) (anchored : Cert → Bool)
  (key : Key) (chain : List Cert)

theorem handshakeChain_tlsSetup :
    handshakeChain tlsSetup keyOf anchored key chain =
      if chain.head?.all (fun c => keyOf c == key && anchored c) then some chain else none := by
  cases chain <;> rfl

theorem serveChain_tls (l : Bool) (f : Flavor) (routes : List Entry) (identify : Option Cert → Option Ident)
    (h : Option (Option Ident)) (path : List String) (m : Method) :
    serveChain f routes (wantedArm false l) identify keyOf anchored key chain h path m =
      if chain.head?.all (fun c => keyOf c == key && anchored c) then
        let id := identify chain.head?
        let r := respond routes ⟨path, m, f == .helper && id.isSome, f == .shard && id.isSome⟩
        ⟨.resp r, match r with | .handled _ => id | _ => none⟩
      else ⟨.connErr, none⟩ := by
  unfold serveChain serveChainWith
  rw [handshakeChain_tlsSetup]
  cases chain.head?.all fun c => keyOf c == key && anchored c <;> rfl

theorem serveChain_unidentified (l : Bool) (identify : Option Cert → Option Ident) (h : Option (Option Ident))
    (path : List String) (m : Method) (hno : identify chain.head? = none) (f : Flavor) (routes : List Entry) :
    serveChain f routes (wantedArm false l) identify keyOf anchored key chain h path m = ⟨.connErr, none⟩ ∨
    serveChain f routes (wantedArm false l) identify keyOf anchored key chain h path m
      = ⟨.resp (respond routes ⟨path, m, false, false⟩), none⟩ := by
  rw [serveChain_tls, hno]
  cases chain.head?.all fun c => keyOf c == key && anchored c
  · exact .inl rfl
  · right
    simp only [Option.isSome_none, Bool.and_false, if_true]
    cases respond routes ⟨path, m, false, false⟩ <;> rfl

end

/-- Over a server started with https enabled (either arm, regenerated
`rustls_config`), the outcome of any request — status AND the identity the request is processed
under — is the same for `c :: t` as for `c :: t'`, whatever the identity header: it is a function of
the end-entity certificate and the key the client holds. -/
theorem live_chain_tail_irrelevant {Cert Key Ident : Type} [DecidableEq Key] (l : Bool) (a : StartArm)
    (ha : armFor false l = some a) (f : Flavor) (routes : List Entry)
    (identify : Option Cert → Option Ident) (keyOf : Cert → Key) (anchored : Cert → Bool)
    (key : Key) (c : Cert) (t t' : List Cert) (h h' : Option (Option Ident)) (path : List String) (m : Method) :
    serveChain f routes a identify keyOf anchored key (c :: t) h path m
      = serveChain f routes a identify keyOf anchored key (c :: t') h' path m := by
  cases eq_wantedArm ha
  rw [serveChain_tls, serveChain_tls]
  rfl

/-- If a request is processed under identity `id` (any arm with https,
any route table, chain, header), then the client holds the key of the FIRST certificate it presented,
that certificate chains to a trust anchor, and `identify` maps exactly that certificate to `id`. -/
theorem live_chain_key_possession {Cert Key Ident : Type} [DecidableEq Key] (l : Bool) (a : StartArm)
    (ha : armFor false l = some a) (f : Flavor) (routes : List Entry)
    (identify : Option Cert → Option Ident) (keyOf : Cert → Key) (anchored : Cert → Bool)
    (hnone : identify none = none)
    (key : Key) (chain : List Cert) (h : Option (Option Ident)) (path : List String) (m : Method) (id : Ident)
    (hid : (serveChain f routes a identify keyOf anchored key chain h path m).attributed = some id) :
    ∃ c t, chain = c :: t ∧ keyOf c = key ∧ anchored c = true ∧ identify (some c) = some id := by
  cases eq_wantedArm ha
  rw [serveChain_tls] at hid
  split at hid
  next hk =>
    -- a handler ran under `identify chain.head?`
    have hi : identify chain.head? = some id := by
      simp only at hid
      split at hid
      · exact hid
      · cases hid
    cases chain with
    | nil => rw [List.head?_nil, hnone] at hi; cases hi
    | cons c t =>
      have hk : (keyOf c == key && anchored c) = true := hk
      rw [Bool.and_eq_true, beq_iff_eq] at hk
      exact ⟨c, t, rfl, hk.1, hk.2, hi⟩
  next => cases hid

/-- the hypotheses are satisfiable: `identify_cert` of the suite's MPC network; helper B's own
certificate followed by helper A's is processed as B -/
example : identifyCert (testPeers .helper) none = none := rfl
example : (serveChain .helper (flatten mpcRouter) (wantedArm false false) (identifyCert (testPeers .helper))
    TestCert.key (testAnchored .helper) 1 [.onFile 1, .onFile 0] none ["query", "0", "step", "a"] .post).attributed = some 1 := by decide

/-- On a server started with https enabled (either
arm), a request matching an h2h (MPC server) / s2s (shard server) route from a client whose FIRST
certificate is not on file for any peer (or that presents none) is answered 401 or not at all and
is processed under no identity — whatever certificates follow, e.g. the public certificates of
real peers. -/
theorem live_chain_requires_authenticated_identity {Cert Key Ident : Type} [DecidableEq Key] (l : Bool) (a : StartArm)
    (ha : armFor false l = some a)
    (identify : Option Cert → Option Ident) (keyOf : Cert → Key) (anchored : Cert → Bool)
    (key : Key) (chain : List Cert) (h : Option (Option Ident)) (path : List String) (m : Method)
    (hno : identify chain.head? = none) :
    (∀ pe ∈ h2hMounted, matchPath pe.path path = true → pe.method = m →
      serveChain .helper (flatten mpcRouter) a identify keyOf anchored key chain h path m = ⟨.connErr, none⟩ ∨
      serveChain .helper (flatten mpcRouter) a identify keyOf anchored key chain h path m = ⟨.resp .unauthorized, none⟩) ∧
    (∀ pe ∈ s2sMounted, matchPath pe.path path = true → pe.method = m →
      serveChain .shard (flatten shardRouter) a identify keyOf anchored key chain h path m = ⟨.connErr, none⟩ ∨
      serveChain .shard (flatten shardRouter) a identify keyOf anchored key chain h path m = ⟨.resp .unauthorized, none⟩) := by
  cases eq_wantedArm ha
  exact protected_of_anonymous (g := fun r => (⟨.resp r, none⟩ : ChainResp Ident))
    (serveChain_unidentified keyOf anchored key chain l identify h path m hno)

/-- the hypothesis is satisfiable and the conclusion not vacuous: helper B, with a certificate it
re-issued for its own key (passes the handshake, is not on file), followed by helper A's public
certificate, gets 401 on the step route -/
example : identifyCert (testPeers .helper) ([TestCert.reissued 1, .onFile 0].head?) = none := by decide
example : serveChain .helper (flatten mpcRouter) (wantedArm false false) (identifyCert (testPeers .helper))
    TestCert.key (testAnchored .helper) 1 [.reissued 1, .onFile 0] none ["query", "0", "step", "a"] .post
      = ⟨.resp .unauthorized, none⟩ := by decide

/-- With `accept := acceptAny` ("first certificate of the
presented chain that is on file") on the suite's MPC and shard networks, a caller holding only
helper B's key (re-issued certificate for that key: valid handshake, not on file) that appends helper
A's PUBLIC certificate is processed as A on the step route — it never proved possession of A's key —
while the code's rule answers 401; and even `acceptAny` differs from `acceptFirst` on the bare
selection. -/
theorem find_any_counterexample :
    (serveChainWith acceptAny tlsSetup .helper (flatten mpcRouter) (wantedArm false false) (identifyCert (testPeers .helper))
        TestCert.key (testAnchored .helper) 1 [.reissued 1, .onFile 0] none ["query", "0", "step", "a"] .post
      = ⟨.resp (.handled "query::step::router:handler::<F>"), some 0⟩) ∧
    (serveChainWith acceptAny tlsSetup .shard (flatten shardRouter) (wantedArm false true) (identifyCert (testPeers .shard))
        TestCert.key (testAnchored .shard) 0 [.reissued 0, .onFile 1] none ["query", "0", "step", "a"] .post).attributed = some 1 ∧
    (serveChainWith acceptFirst tlsSetup .helper (flatten mpcRouter) (wantedArm false false) (identifyCert (testPeers .helper))
        TestCert.key (testAnchored .helper) 1 [.reissued 1, .onFile 0] none ["query", "0", "step", "a"] .post
      = ⟨.resp .unauthorized, none⟩) ∧
    TestCert.key (.onFile 0) ≠ 1 ∧
    acceptAny (identifyCert (testPeers .helper)) [.reissued 1, .onFile 0] = some 0 ∧
    acceptFirst (identifyCert (testPeers .helper)) [.reissued 1, .onFile 0] = none := by
  decide

/-- the two rules agree on every chain of length ≤ 1 — which is all that a single-certificate client
ever sends -/
theorem find_any_agrees_on_single {Cert Ident : Type} (identify : Option Cert → Option Ident)
    (hnone : identify none = none) (c : Cert) :
    acceptAny identify [c] = acceptFirst identify [c] ∧ acceptAny identify [] = acceptFirst identify [] := by
  refine ⟨?_, hnone.symm⟩
  simp only [acceptAny, acceptFirst, List.findSome?, List.head?]
  cases identify (some c) <;> rfl

end IpaVerif.C20Chain
