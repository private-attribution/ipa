import IpaVerif.Proofs.BatcherTrace
import IpaVerif.Proofs.BatcherWorld
import IpaVerif.Props.C15
import IpaVerif.Generated.BatcherConsts
/-!
# C16 — a record is released only after its whole batch is validated, with its verdict

Model: `IpaVerif.Model.Batcher` (transcription of `protocol/context/batcher.rs`).
The theorems quantify over **every** history `ops` of `get_batch` / `validate_record` /
`set_total_records` calls issued to a fresh batcher — any number of records, any
`records_per_batch ≥ 1`, any total (multiples of the batch size or not), any arrival order of records
and batches (so including out-of-order batch completion with `None` slots), duplicates and
out-of-range calls included.  `(reach …).1` is the batcher state after the history and
`(reach …).2` the history summary: `acc` = records whose `validate_record` was accepted so far,
`closed` = batches for which `Ready::Yes` was answered so far (see `ghostStep`).
-/
namespace IpaVerif.C16
open IpaVerif.Batcher

/-- state and history summary after the calls `ops` on `Batcher::new(rpb, t0, …)`. -/
def reach (rpb : Nat) (t0 : Total) (tps : Nat) (ops : List Op) : State × Ghost :=
  execG (State.new rpb t0 tps) {} ops

/-- `n` is the total number of records: the batcher was created with it or without a total, and
every `set_total_records(Specified m)` in the history has `m = n`. -/
structure Setting (n rpb : Nat) (t0 : Total) (ops : List Op) : Prop where
  rpb_pos : 0 < rpb
  t0_ok : t0 = .specified n ∨ t0 = .indeterminate ∨ t0 = .unspecified
  totals : TotalsAgree n ops

example : Setting 5 2 (.specified 5) [.get 0 0, .validate 0, .validate 3, .setTotal .indeterminate] :=
  ⟨by decide, Or.inl rfl, by intro t m h e; subst e; simp at h⟩

theorem reach_inv {n rpb t0 tps ops} (h : Setting n rpb t0 ops) :
    Inv n (reach rpb t0 tps ops).1 (reach rpb t0 tps ops).2 :=
  inv_execG ops _ _ (inv_new n rpb tps h.rpb_pos t0 h.t0_ok) h.totals

theorem reach_rpb (rpb t0 tps ops) : (reach rpb t0 tps ops).1.rpb = rpb := by
  unfold reach; rw [execG_rpb]; rfl

/-- In every reachable state, `validate_record(r)` answers
`Ready::Yes{batch b}` (the only way the batch check can start, hence the only way anyone waiting on
`b` can be released) only if `b` is `r`'s batch, built by constructor call `b`, and *every* record of
`b` below the total has asked for validation (accepted earlier in the history, or is `r` itself);
and it answers `Ready::No` (the caller must wait) only while some record of the batch is missing. -/
theorem release_after_whole_batch {n rpb t0 tps ops} (h : Setting n rpb t0 ops) (r : Nat) :
    let s := (reach rpb t0 tps ops).1
    let g := (reach rpb t0 tps ops).2
    (∀ s' b st, validateRecord s r = (s', .ready b st) →
        b = r / rpb ∧ st.ctor = b ∧ r < n ∧ ∀ r', r' < n → r' / rpb = b → r' = r ∨ r' ∈ g.acc) ∧
    (∀ s' b, validateRecord s r = (s', .notReady b) →
        b = r / rpb ∧ r < n ∧ ∃ r', r' < n ∧ r' / rpb = b ∧ r' ≠ r ∧ r' ∉ g.acc) := by
  intro s g
  have hs := validate_step (reach_inv (tps := tps) h) r
  rw [StepSpec.eq_def, reach_rpb rpb t0 tps ops] at hs
  constructor
  · intro s' b st he
    rw [he] at hs
    obtain ⟨h1, h2, _, _, _, h6, _, h8⟩ := hs
    exact ⟨h1, h8, h2, fun r' hr' hb => List.mem_cons.1 ((forall_offsets_iff_forall_records h.rpb_pos _ b).1 h6 r' hr' hb)⟩
  · intro s' b he
    rw [he] at hs
    obtain ⟨h1, h2, _, _, _, h6⟩ := hs
    rw [forall_offsets_iff_forall_records h.rpb_pos] at h6
    obtain ⟨r', h6⟩ := Classical.not_forall.1 h6
    obtain ⟨hr', h6⟩ := Classical.not_imp.1 h6
    obtain ⟨hb, hm⟩ := Classical.not_imp.1 h6
    exact ⟨h1, h2, r', hr', hb, fun e => hm (e ▸ List.mem_cons_self), fun hm' => hm (List.mem_cons_of_mem _ hm')⟩

/-- For every arrival order of records and batches:
(1) `Ready::Yes` is never answered twice for the same batch; (2) as soon as all records of a batch
have asked for validation, `Ready::Yes` *has* been answered for it (so it is checked exactly once);
(3) slot `k` of the deque is batch `first_batch + k`, and the popped prefix `b < first_batch`
consists of completed batches only. -/
theorem each_batch_ready_exactly_once {n rpb t0 tps ops} (h : Setting n rpb t0 ops) :
    let s := (reach rpb t0 tps ops).1
    let g := (reach rpb t0 tps ops).2
    (∀ r s' b st, validateRecord s r = (s', .ready b st) → b ∉ g.closed) ∧
    (∀ b, b * rpb < n → (∀ r', r' < n → r' / rpb = b → r' ∈ g.acc) → b ∈ g.closed) ∧
    (∀ k bs, s.batches[k]? = some (some bs) → bs.ctor = s.firstBatch + k) ∧
    (∀ b, b < s.firstBatch → b ∈ g.closed) ∧
    (∀ b, b ∈ g.closed → ∀ r', r' < n → r' / rpb = b → r' ∈ g.acc) := by
  intro s g
  have hI := reach_inv (tps := tps) h
  have hr : s.rpb = rpb := reach_rpb rpb t0 tps ops
  refine ⟨fun r s' b st he => ?_, fun b => ?_, fun k bs hk => (hI.live k bs hk).ctor,
    fun b hb => (hI.closed_iff b).2 (Or.inl hb), fun b hb => ?_⟩
  · have hs := validate_step hI r
    rw [he] at hs
    exact hs.fresh_batch
  · exact hr ▸ hI.closed_of_records (b := b)
  · exact hr ▸ hI.closed_records hb

/-- The last batch `(n-1)/rpb` holds `n - last*rpb`
records (between 1 and `rpb`, fewer than `rpb` when `n` is not a multiple), and an accepted
`validate_record` of one of its records answers `Ready::Yes` exactly when all records up to the
declared total have asked — not when `rpb` records have. -/
theorem final_partial_batch_closes_at_total {n rpb t0 tps ops} (h : Setting n rpb t0 ops) (hn : 0 < n)
    (r : Nat) (hlast : r / rpb = (n - 1) / rpb) :
    let s := (reach rpb t0 tps ops).1
    let g := (reach rpb t0 tps ops).2
    let last := (n - 1) / rpb
    (tcOf n rpb last = n - last * rpb ∧ 0 < n - last * rpb ∧ n - last * rpb ≤ rpb) ∧
    (∀ s' b st, validateRecord s r = (s', .ready b st) → ∀ r', last * rpb ≤ r' → r' < n → r' = r ∨ r' ∈ g.acc) ∧
    (∀ s' b, validateRecord s r = (s', .notReady b) → ∃ r', last * rpb ≤ r' ∧ r' < n ∧ r' ≠ r ∧ r' ∉ g.acc) := by
  intro s g last
  have hp := h.rpb_pos
  obtain ⟨h1, h2⟩ := offset_of_div (b := last) hp rfl
  have hsize : 0 < n - last * rpb ∧ n - last * rpb ≤ rpb := by omega
  have hdiv : ∀ r', last * rpb ≤ r' → r' < n → r' / rpb = last := fun r' ha hb => by
    rw [← Nat.add_sub_cancel' ha]; exact div_offset _ _ _ (by omega)
  obtain ⟨hA, hB⟩ := release_after_whole_batch (tps := tps) h r
  refine ⟨⟨Nat.min_eq_right hsize.2, hsize⟩, fun s' b st he r' ha hb => ?_, fun s' b he => ?_⟩
  · obtain ⟨e, _, _, hall⟩ := hA s' b st he
    exact hall r' hb ((hdiv r' ha hb).trans (hlast.symm.trans e.symm))
  · obtain ⟨e, _, r', hr', hb', hne, hm⟩ := hB s' b he
    exact ⟨r', Nat.le.intro (offset_of_div hp (hb'.trans (e.trans hlast))).1, hr', hne, hm⟩

/-- In every reachable state: validating a record that already asked, a
record at or beyond the total, a record of a batch that already became ready, or validating without
a total, is answered by an error or a panic — never by `Ready::No`/`Ready::Yes`; `get_batch` on a
batch that already became ready panics. -/
theorem misuse_is_loud {n rpb t0 tps ops} (h : Setting n rpb t0 ops) (r : Nat) :
    let s := (reach rpb t0 tps ops).1
    let g := (reach rpb t0 tps ops).2
    ((r ∈ g.acc ∨ n ≤ r ∨ r / rpb ∈ g.closed ∨ s.total.count = none) →
        (∃ e, (validateRecord s r).2 = .err e) ∨ (∃ p, (validateRecord s r).2 = .panic p)) ∧
    (r / rpb ∈ g.closed → ∀ x, ∃ p, (getBatchPush s r x).2 = .error p) := by
  intro s g
  have hI := reach_inv (tps := tps) h
  have hr : s.rpb = rpb := reach_rpb rpb t0 tps ops
  constructor
  · intro hm
    have hs := validate_step hI r
    generalize hres : validateRecord s r = res at hs
    obtain ⟨s', o⟩ := res
    cases ho : o.isAccepted with
    | false =>
      cases o with
      | err e => exact Or.inl ⟨e, rfl⟩
      | panic p => exact Or.inr ⟨p, rfl⟩
      | notReady b => cases ho
      | ready b st => cases ho
    | true =>
      obtain ⟨h2, h3, h4⟩ := hs.legit ho
      rw [hr] at h4
      rcases hm with hm | hm | hm | hm
      · exact absurd hm h3
      · exact absurd h2 (Nat.not_lt_of_ge hm)
      · exact absurd hm h4
      · rw [validateRecord_noTotal hm] at hres
        cases hres; cases ho
  · intro hc x
    have := (inv_getBatchPush hI r x).2.1
    rw [hr] at this
    exact this hc

/-! ## The asynchronous tail: futures, the watch channel, the validation closure

`wreach` runs any schedule of batcher calls, single polls of any of the returned futures, the
environment letting the check of a batch finish (`release`) and futures being dropped. -/

/-- world and history summary after the schedule `ops`; `failing` = batches whose check returns `Err`. -/
def wreach (rpb : Nat) (t0 : Total) (tps : Nat) (failing : List Nat) (ops : List WOp) : World × Ghost :=
  wexec (World.new rpb t0 tps failing) {} ops

structure WSetting (n rpb : Nat) (t0 : Total) (ops : List WOp) : Prop where
  rpb_pos : 0 < rpb
  t0_ok : t0 = .specified n ∨ t0 = .indeterminate ∨ t0 = .unspecified
  totals : WTotalsAgree n ops

example : WSetting 3 2 (.specified 3) [.validate 0, .poll 0, .validate 1, .release 0, .poll 1, .poll 0] :=
  ⟨by decide, Or.inl rfl, by intro t m h; simp at h⟩

theorem wreach_inv {n rpb t0 tps failing ops} (h : WSetting n rpb t0 ops) :
    WInv n (wreach rpb t0 tps failing ops).1 (wreach rpb t0 tps failing ops).2 :=
  winv_wexec ops _ _ (winv_new n rpb tps h.rpb_pos t0 h.t0_ok failing) h.totals

theorem wreach_batcher {n rpb t0 tps failing ops} (h : WSetting n rpb t0 ops) :
    (wreach rpb t0 tps failing ops).1.failing = failing ∧
    ∃ s, (wreach rpb t0 tps failing ops).1.batcher = some s ∧ s.rpb = rpb ∧
      Inv n s (wreach rpb t0 tps failing ops).2 := by
  obtain ⟨a, b⟩ := wexec_failing_rpb ops (World.new rpb t0 tps failing) {}
  obtain ⟨s, hs, hinv⟩ := (wreach_inv (tps := tps) (failing := failing) h).batcher
  refine ⟨a, s, hs, ?_, hinv⟩
  unfold wreach at hs
  rw [hs] at b
  exact Option.some.inj b

/-- The asynchronous half of *release after the whole batch*. After any schedule: if a poll of a future waiting on batch `b` completes, then every record of `b`
below the total has asked for validation, the check of `b` has been invoked and allowed to finish,
and the result is `Ok` exactly when the check succeeded (`ParallelDZKPValidationFailed` otherwise);
the future that runs the check returns the check's own result. -/
theorem verdict_matches {n rpb t0 tps failing ops} (h : WSetting n rpb t0 ops) (i : Nat) :
    let w := (wreach rpb t0 tps failing ops).1
    let g := (wreach rpb t0 tps failing ops).2
    (∀ b, w.futs.getD i .gone = .waiter b →
      ((w.poll i).2 = .ok →
        (∀ r', r' < n → r' / rpb = b → r' ∈ g.acc) ∧ b ∈ invokedKeys w ∧ b ∈ w.released ∧ b ∉ failing) ∧
      (∀ e, (w.poll i).2 = .err e → e = .parallelFailed ∧
        (∀ r', r' < n → r' / rpb = b → r' ∈ g.acc) ∧ b ∈ invokedKeys w ∧ b ∈ w.released ∧ b ∈ failing)) ∧
    (∀ b st x, w.futs.getD i .gone = .validator b st x →
      (∀ r', r' < n → r' / rpb = b → r' ∈ g.acc) ∧ st.ctor = b ∧
      ((w.poll i).2 = .ok → b ∈ w.released ∧ b ∉ failing) ∧
      (∀ e, (w.poll i).2 = .err e → e = .validationFailed ∧ b ∈ w.released ∧ b ∈ failing)) := by
  intro w g
  have hI := wreach_inv (tps := tps) (failing := failing) h
  obtain ⟨hfail, s, _, rfl, hinv⟩ := wreach_batcher (tps := tps) (failing := failing) h
  replace hfail : w.failing = failing := hfail
  constructor
  · intro b hf
    obtain ⟨h1, h2⟩ := poll_waiter hf
    have key : ∀ v, (b, v) ∈ w.verdicts → (∀ r', r' < n → r' / s.rpb = b → r' ∈ g.acc) ∧
        b ∈ invokedKeys w ∧ b ∈ w.released ∧ (v = true ↔ b ∉ failing) := fun v hv =>
      let ⟨a, rest⟩ := hI.verdict_spec hv
      ⟨hinv.closed_records a, hfail ▸ rest⟩
    refine ⟨fun hok => ?_, fun e he => ?_⟩
    · obtain ⟨a, b1, b2, c⟩ := key true (h1 hok)
      exact ⟨a, b1, b2, c.1 rfl⟩
    · obtain ⟨a, b1, b2, c⟩ := key false (h2 e he).2
      exact ⟨(h2 e he).1, a, b1, b2, Classical.not_not.1 (mt c.2 Bool.false_ne_true)⟩
  · intro b st x hf
    obtain ⟨hbc, _, _, hctor⟩ := hI.validators i b st x (getElem?_of_getD_ne_gone hf nofun)
    exact ⟨hinv.closed_records hbc, hctor, hfail ▸ poll_validator hf⟩

/-- After any schedule the log of
invocations of the validation closure has no batch twice; every logged batch had all its records ask
for validation; the closure received the batch built by constructor call `b`; verdicts are
broadcast at most once per batch and only for checked, finished batches. -/
theorem batch_checked_at_most_once {n rpb t0 tps failing ops} (h : WSetting n rpb t0 ops) :
    let w := (wreach rpb t0 tps failing ops).1
    let g := (wreach rpb t0 tps failing ops).2
    (invokedKeys w).Nodup ∧
    (∀ b, b ∈ invokedKeys w → ∀ r', r' < n → r' / rpb = b → r' ∈ g.acc) ∧
    (∀ b c p, (b, c, p) ∈ w.invoked → c = b) ∧
    (verdictKeys w).Nodup ∧
    (∀ b v, (b, v) ∈ w.verdicts → b ∈ invokedKeys w ∧ b ∈ w.released ∧ (v = true ↔ b ∉ failing)) := by
  intro w g
  have hI := wreach_inv (tps := tps) (failing := failing) h
  obtain ⟨hfail, s, _, rfl, hinv⟩ := wreach_batcher (tps := tps) (failing := failing) h
  exact ⟨hI.invoked_nodup, fun b hb => hinv.closed_records (hI.invoked_closed b hb), hI.invoked_ctor,
    hI.verdict_nodup, fun b v hv => hfail ▸ (hI.verdict_spec hv).2⟩

/-- `DZKPUpgraded::new` sets `active_work = records_per_batch` (translator item
`seqjoin.active_work_equals_batch`), and
`validated_seq_join` chains `validate_record(k)` to task `k`, so task `k` can only finish once the
later records of its batch — at most `rpb − 1` positions ahead — have reached validation.  With the
window equal to the batch size this cannot stall: under the (stronger) requirement that *all* of
the next `rpb − 1` tasks have started, the sequential join (C15 model) finishes within `2n + 2`
polls with every result in order.  A window smaller than the batch would not do: see the
`c15.dep` cases of suite `c15_local` with `d ≥ w`. -/
theorem active_work_equals_batch (n rpb : Nat) (hrpb : 0 < rpb) :
    let obs := (IpaVerif.SeqJoin.run (IpaVerif.SeqJoin.State.new n rpb)
      (List.replicate (2 * n + 2) (IpaVerif.SeqJoin.depEnv n (rpb - 1) (rpb + 1)))).2
    (∃ o, o ∈ obs ∧ o.out = .finished) ∧ IpaVerif.SeqJoin.items obs = List.range n := by
  exact IpaVerif.C15.window_dependency_progress n rpb (rpb - 1) hrpb (by omega)

/-- `records_per_batch = 0` is loud as well: every call panics (division by zero). -/
theorem zero_batch_size_is_loud (s : State) (h0 : s.rpb = 0) (r n : Nat) (ht : s.total = .specified n) :
    validateRecord s r = (s, .panic .divZero) := by
  simp [validateRecord, ht, Total.count, batchOffset, h0]

/-- The modelled constant is the one in the source (regenerated on every run). -/
theorem target_proof_size_test : IpaVerif.Generated.targetProofSizeTest = 8192 := rfl

end IpaVerif.C16
