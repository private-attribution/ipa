import IpaVerif.Model.Shuffle
import IpaVerif.Proofs.ShuffleLemmas
/-!
# C05 — shuffle outputs a re-shared permutation of its input; tampering is detected
-/
namespace IpaVerif.C05
open IpaVerif.Shuffle IpaVerif.Generated

theorem shape_prTable (f : Nat → Nat → Row) (sh : List Nat) : shape (prTable f sh) = sh :=
  List.ext_getElem (by simp [shape, prTable]) fun i _ h2 => by
    simp [shape, prTable, List.getD_eq_getElem?_getD, h2]

/-- the rounds of a run are usable: destinations are real shards, local shuffles are permutations -/
structure ValidRand (S : Nat) (ρ : Rand) : Prop where
  v12 : ρ.r12.Valid S
  v23 : ρ.r23.Valid S
  v31 : ρ.r31.Valid S

/-- The last step: H2 holds `x3`, H3 holds `y3`, `a` is `Ã`, `b` is `B̃`; the outputs are `(a, b)`, `(b, c)`, `(c, a)`. -/
theorem final_step {x3 y3 a b : Table} {sh : List Nat} (sx : shape x3 = sh) (sy : shape y3 = sh) (sa : shape a = sh)
    (sb : shape b = sh) :
    shape (txor (txor x3 b) (txor y3 a)) = sh ∧ txor (txor a b) (txor (txor x3 b) (txor y3 a)) = txor x3 y3 := by
  have sc1 := shape_txor sx sb
  have sc2 := shape_txor sy sa
  have sc := shape_txor sc1 sc2
  have sab := shape_txor sa sb
  refine ⟨sc, table_ext (shape_txor sab sc) (shape_txor sx sy) fun p => ?_⟩
  rw [get_txor sab sc, get_txor sa sb, get_txor sc1 sc2, get_txor sx sb, get_txor sy sa, get_txor sx sy]
  exact xor_reconstruct _ _ _ _

theorem shape_mas_valid {S : Nat} {ρ : Round} (hv : ρ.Valid S) (t : Table) :
    shape (maskAndShuffle S ρ t) = routeShape S ρ.dest (shape t) := by
  simp only [shape_mas, route, routeShape, List.map_map]
  exact List.map_congr_left fun d _ => (hv.shuf_perm d _).length_eq

theorem shuffle_spec (S : Nat) (ρ : Rand) (hv : ValidRand S ρ) (s1 s2 s3 : Table)
    (e12 : shape s1 = shape s2) (e23 : shape s2 = shape s3) :
    ∃ a b c : Table,
      (shuffle S ρ { left := s1, right := s2 } { left := s2, right := s3 }).1 =
        ({ left := a, right := b }, { left := b, right := c }, { left := c, right := a }) ∧
      shape a = cardinalities S ρ (shape s1) ∧ shape b = cardinalities S ρ (shape s1) ∧
      shape c = cardinalities S ρ (shape s1) ∧
      ((txor (txor a b) c).flatten).Perm ((txor (txor s1 s2) s3).flatten) := by
  -- the three rounds: `x`/`y` are what the two helpers sharing the round's randomness hold
  let x1 := maskAndShuffle S ρ.r12 (txor s1 s2)
  let y1 := maskAndShuffle S ρ.r12 s3
  let x2 := maskAndShuffle S ρ.r31 x1
  let y2 := maskAndShuffle S ρ.r31 y1
  let x3 := maskAndShuffle S ρ.r23 x2
  let y3 := maskAndShuffle S ρ.r23 y2
  obtain ⟨sh1, p1⟩ : shape x1 = shape y1 ∧ _ := round_perm hv.v12 (shape_txor (e12.trans e23) e23)
  obtain ⟨sh2, p2⟩ : shape x2 = shape y2 ∧ _ := round_perm hv.v31 sh1
  obtain ⟨sh3, p3⟩ : shape x3 = shape y3 ∧ _ := round_perm hv.v23 sh2
  have sx : shape x3 = cardinalities S ρ (shape s1) := by
    rw [shape_mas_valid hv.v23, shape_mas_valid hv.v31, shape_mas_valid hv.v12, shape_txor rfl e12.symm]
    rfl
  have sa := (shape_prTable ρ.a (shape x3)).trans sx
  have sb := (shape_prTable ρ.b (shape x3)).trans sx
  obtain ⟨sc, hrec⟩ := final_step sx (sh3.symm.trans sx) sa sb
  exact ⟨_, _, _, rfl, sa, sb, sc, (List.Perm.of_eq (congrArg List.flatten hrec)).trans ((p3.trans p2).trans p1)⟩

/-- For every number of destination shards, every per-shard input (including empty
shards and fewer rows than shards), every consistent replicated sharing `(s1,s2,s3)` of it, and all
masks, destinations, local permutations and pseudo-random tables shared pairwise as PRSS prescribes:
the three helpers' outputs are a consistent replicated sharing (adjacent components equal, same shape
everywhere) and the multiset of reconstructed output rows over all shards equals the multiset of input
rows. -/
theorem shuffle_multiset (S : Nat) (ρ : Rand) (hv : ValidRand S ρ) (s1 s2 s3 : Table)
    (e12 : shape s1 = shape s2) (e23 : shape s2 = shape s3) :
    let out := (shuffle S ρ { left := s1, right := s2 } { left := s2, right := s3 }).1
    (out.1.right = out.2.1.left ∧ out.2.1.right = out.2.2.left ∧ out.2.2.right = out.1.left) ∧
    (shape out.1.left = shape out.1.right ∧ shape out.2.1.left = shape out.2.1.right ∧
      shape out.2.2.left = shape out.2.2.right) ∧
    ((reconstruct out).flatten).Perm ((txor (txor s1 s2) s3).flatten) := by
  obtain ⟨a, b, c, ho, sa, sb, sc, hp⟩ := shuffle_spec S ρ hv s1 s2 s3 e12 e23
  rw [ho]
  exact ⟨⟨rfl, rfl, rfl⟩, ⟨sa.trans sb.symm, sb.trans sc.symm, sc.trans sa.symm⟩, hp⟩

theorem length_h1Table (a b : Nat → Row) (sz : Nat) : (h1Table a b sz).length = sz := by
  simp [h1Table]

/-- H1's per-shard tables `h1Table` over the announced cardinalities are exactly the `(left, right)`
tables the protocol model assigns to H1. -/
theorem h1Table_eq (ρ : Rand) (sh : List Nat) (d : Nat) (hd : d < sh.length) :
    ((h1Table (ρ.a d) (ρ.b d) (sh.getD d 0)).map Prod.fst = (prTable ρ.a sh).getD d [] ) ∧
    ((h1Table (ρ.a d) (ρ.b d) (sh.getD d 0)).map Prod.snd = (prTable ρ.b sh).getD d [] ) := by
  simp [h1Table, prTable, List.getD_eq_getElem?_getD, hd, Function.comp_def]

/-- On every shard the three helpers' output tables (both components) have the
same number of rows, namely the cardinality H2 announces to H1 for that shard (`cardinalities`: the
input shape routed through the three permutation rounds); there is one entry per destination shard and
the announced cardinalities add up to the number of input rows — no row is lost on any helper. -/
theorem output_sizes_equal (S : Nat) (ρ : Rand) (hv : ValidRand S ρ) (s1 s2 s3 : Table)
    (e12 : shape s1 = shape s2) (e23 : shape s2 = shape s3) :
    let out := (shuffle S ρ { left := s1, right := s2 } { left := s2, right := s3 }).1
    let card := cardinalities S ρ (shape s1)
    shape out.1.left = card ∧ shape out.1.right = card ∧
    shape out.2.1.left = card ∧ shape out.2.1.right = card ∧
    shape out.2.2.left = card ∧ shape out.2.2.right = card ∧
    card.length = S ∧ card.sum = (shape s1).sum := by
  obtain ⟨a, b, c, ho, sa, sb, sc, hp⟩ := shuffle_spec S ρ hv s1 s2 s3 e12 e23
  rw [ho]
  refine ⟨sa, sb, sb, sc, sc, sa, by simp [cardinalities, routeShape], ?_⟩
  have hin : shape (txor (txor s1 s2) s3) = shape s1 := shape_txor (shape_txor rfl e12.symm) (e12.trans e23).symm
  have hl := hp.length_eq
  rw [List.length_flatten, List.length_flatten] at hl
  exact (congrArg List.sum (shape_txor (shape_txor sa sb) sc)).symm.trans (hl.trans (congrArg List.sum hin))

/-- the hypotheses of `shuffle_multiset` are satisfiable for every positive shard count -/
def exRound (S k : Nat) : Round where
  mask j i := 1000 * k + 10 * j + i
  dest j i := (i + j + k) % S
  shuf _ l := l.reverse

theorem exRound_valid (S k : Nat) (hS : 0 < S) : (exRound S k).Valid S :=
  ⟨fun _ _ => Nat.mod_lt _ hS, fun _ l => List.reverse_perm l⟩

example : (reconstruct (shuffle 3 { r12 := exRound 3 1, r23 := exRound 3 2, r31 := exRound 3 3, a := fun d i => d + i, b := fun d i => 2 * d + i }
      { left := [[1, 2], [], [3]], right := [[4, 5], [], [6]] } { left := [[4, 5], [], [6]], right := [[8, 9], [], [10]] }).1).flatten.Perm
    (txor (txor [[1, 2], [], [3]] [[4, 5], [], [6]]) [[8, 9], [], [10]]).flatten :=
  (shuffle_multiset 3 _ ⟨exRound_valid 3 1 (by decide), exRound_valid 3 2 (by decide), exRound_valid 3 3 (by decide)⟩
    [[1, 2], [], [3]] [[4, 5], [], [6]] [[8, 9], [], [10]] rfl rfl).2.2

example : shape (shuffle 3 { r12 := exRound 3 1, r23 := exRound 3 2, r31 := exRound 3 3, a := fun d i => d + i, b := fun d i => 2 * d + i }
      { left := [[1, 2], [], [3]], right := [[4, 5], [], [6]] } { left := [[4, 5], [], [6]], right := [[8, 9], [], [10]] }).1.1.left =
    shape (shuffle 3 { r12 := exRound 3 1, r23 := exRound 3 2, r31 := exRound 3 3, a := fun d i => d + i, b := fun d i => 2 * d + i }
      { left := [[1, 2], [], [3]], right := [[4, 5], [], [6]] } { left := [[4, 5], [], [6]], right := [[8, 9], [], [10]] }).1.2.1.right := by
  have h := output_sizes_equal 3 { r12 := exRound 3 1, r23 := exRound 3 2, r31 := exRound 3 3, a := fun d i => d + i, b := fun d i => 2 * d + i }
    ⟨exRound_valid 3 1 (by decide), exRound_valid 3 2 (by decide), exRound_valid 3 3 (by decide)⟩
    [[1, 2], [], [3]] [[4, 5], [], [6]] [[8, 9], [], [10]] rfl rfl
  exact h.1.trans h.2.2.2.1.symm

/-- Every permutation round is used by exactly the two helpers that share its randomness, looking at each
other (`Right` of `Hi` is `H(i+1)`, `Left` of `H(i+1)` is `Hi`) — checked on the calls extracted from
`sharded.rs`. This is what licenses using one `Round` value for both parties in the model. -/
theorem round_pairing :
    ShuffleC.roundUses.all (fun (h, step, dir) =>
      let peer := if dir == "Right" then h % 3 + 1 else (h + 1) % 3 + 1
      let back := if dir == "Right" then "Left" else "Right"
      ShuffleC.roundUses.contains (peer, step, back) &&
      (ShuffleC.roundUses.filter (fun u => u.2.1 == step)).length == 2) = true ∧
    ShuffleC.roundUses.length = 6 := by decide

/-- What the tag argument needs from GF(2^32): an additive group of characteristic 2 with a
distributive multiplication without zero divisors (C08 proves these for `Gf32Bit`). -/
structure TagField (F : Type) where
  add : F → F → F
  mul : F → F → F
  zero : F
  add_assoc : ∀ a b c, add (add a b) c = add a (add b c)
  add_comm : ∀ a b, add a b = add b a
  add_zero : ∀ a, add a zero = a
  add_self : ∀ a, add a a = zero
  mul_add : ∀ a b k, mul (add a b) k = add (mul a k) (mul b k)
  add_mul : ∀ w k l, mul w (add k l) = add (mul w k) (mul w l)
  /-- `NoZeroDivisors` -/
  no_zero_div : ∀ a b, mul a b = zero → a = zero ∨ b = zero

variable {F : Type} (G : TagField F)

/-- `Σ keyᵢ · wordᵢ` (`compute_and_add_tags`, `compute_and_hash_tags`) -/
def ip : List F → List F → F
  | w :: ws, k :: ks => G.add (G.mul w k) (ip ws ks)
  | _, _ => G.zero

def vadd : List F → List F → List F
  | a :: as, b :: bs => G.add a b :: vadd as bs
  | _, _ => []

theorem zero_add (a : F) : G.add G.zero a = a := by rw [G.add_comm, G.add_zero]

theorem add_add_add_comm (a b c d : F) : G.add (G.add a b) (G.add c d) = G.add (G.add a c) (G.add b d) := by
  rw [G.add_assoc, G.add_assoc, ← G.add_assoc b c d, G.add_comm b c, G.add_assoc c b d]

/-- The tag of a sum of rows is the sum of the tags. -/
theorem tag_linear (keys w d : List F) (h : w.length = d.length) :
    ip G (vadd G w d) keys = G.add (ip G w keys) (ip G d keys) := by
  induction w generalizing d keys with
  | nil =>
    cases d with
    | nil => exact (G.add_zero _).symm
    | cons _ _ => cases h
  | cons a as ih =>
    cases d with
    | nil => cases h
    | cons b bs =>
      cases keys with
      | nil => exact (G.add_zero _).symm
      | cons k ks =>
        show G.add (G.mul (G.add a b) k) (ip G (vadd G as bs) ks) = _
        rw [ih ks bs (Nat.succ.inj h), G.mul_add, add_add_add_comm]
        rfl

/-- the value compared (through hashes) by `verify_shuffle` for a row `w` with tag `t` -/
def check (keys w : List F) (t : F) : F := G.add (ip G w keys) t

/-- A correctly tagged row checks to zero. -/
theorem check_honest (keys w : List F) : check G keys w (ip G w keys) = G.zero := G.add_self _

/-- Adding `(d, dt)` to a row changes its check value by `check keys d dt`. -/
theorem check_add (keys w d : List F) (t dt : F) (h : w.length = d.length) :
    check G keys (vadd G w d) (G.add t dt) = G.add (check G keys w t) (check G keys d dt) := by
  simp only [check, tag_linear G keys w d h, add_add_add_comm]

theorem add_left_cancel {a x y : F} (h : G.add a x = G.add a y) : x = y := by
  have h2 := congrArg (G.add a) h
  rwa [← G.add_assoc, ← G.add_assoc, G.add_self, zero_add, zero_add] at h2

theorem add_right_cancel {a x y : F} (h : G.add x a = G.add y a) : x = y :=
  add_left_cancel G ((G.add_comm a x).trans (h.trans (G.add_comm y a)))

theorem eq_zero_of_add_eq_self {x d : F} (h : G.add x d = x) : d = G.zero :=
  add_left_cancel G (h.trans (G.add_zero x).symm)

theorem ip_append (dpre pre x y : List F) (hl : dpre.length = pre.length) :
    ip G (dpre ++ x) (pre ++ y) = G.add (ip G dpre pre) (ip G x y) := by
  induction dpre generalizing pre with
  | nil =>
    cases pre with
    | nil => exact (zero_add G _).symm
    | cons _ _ => cases hl
  | cons a as ih =>
    cases pre with
    | nil => cases hl
    | cons k ks =>
      show G.add (G.mul a k) (ip G (as ++ x) (ks ++ y)) = _
      rw [ih ks (Nat.succ.inj hl), ← G.add_assoc]
      rfl

/-- Tag part of `tag_detects`. If only the tag of a row is changed (by `dt ≠ 0`), its check value changes
for *every* key vector. -/
theorem tag_detects_tag_only (keys w : List F) (t dt : F) (hdt : dt ≠ G.zero) :
    check G keys w (G.add t dt) ≠ check G keys w t :=
  fun h => hdt (eq_zero_of_add_eq_self G (add_left_cancel G h))

/-- Let a row be changed by `(d, dt)` with word `j` of `d` non-zero
(`d = dpre ++ dj :: dpost`). The change goes unnoticed exactly when `check keys d dt = 0`
(`check_add`, `check_honest`). Along every line of key vectors that differ only in key `j`, at most **one**
key has that property (over GF(2^32): one key in `2^32`). Uses that the field has no zero divisors. -/
theorem tag_detects (pre post dpre dpost : List F) (k k' dj dt : F) (hl : dpre.length = pre.length)
    (hdj : dj ≠ G.zero)
    (h1 : check G (pre ++ k :: post) (dpre ++ dj :: dpost) dt = G.zero)
    (h2 : check G (pre ++ k' :: post) (dpre ++ dj :: dpost) dt = G.zero) : k = k' := by
  simp only [check, ip_append G dpre pre _ _ hl, ip, G.add_assoc] at h1 h2
  -- everything but the term of key `j` is the same in `h1` and `h2`
  have e : G.mul dj k = G.mul dj k' := add_right_cancel G (add_left_cancel G (h1.trans h2.symm))
  have e0 : G.mul dj (G.add k k') = G.zero := by rw [G.add_mul, e, G.add_self]
  rcases G.no_zero_div _ _ e0 with h | h
  · exact absurd h hdj
  · exact (add_left_cancel G (h.trans (G.add_self k).symm)).symm

/-- The verifying helper hashes the list of check values of the table it holds and
compares with the hash its neighbour computed from the table it *should* hold. If one row was changed by
something whose check value `D` is non-zero, and the hash is injective on these lists (collision
resistance, hypothesis), the comparison fails. -/
theorem shuffle_tamper_core {H : Type} (hash : List F → H) (hinj : ∀ a b, hash a = hash b → a = b)
    (vals : List F) (i : Nat) (hi : i < vals.length) (D : F) (hD : D ≠ G.zero) :
    hash (vals.set i (G.add vals[i] D)) ≠ hash vals := by
  intro h
  have := congrArg (·[i]?) (hinj _ _ h)
  simp only [List.getElem?_set_self hi, List.getElem?_eq_getElem hi, Option.some.injEq] at this
  exact hD (eq_zero_of_add_eq_self G this)

/-- non-vacuity: GF(2) is a `TagField`; the identity is an injective "hash" -/
def gf2 : TagField Bool where
  add := xor
  mul := and
  zero := false
  add_assoc := by decide
  add_comm := by decide
  add_zero := by decide
  add_self := by decide
  mul_add := by decide
  add_mul := by decide
  no_zero_div := by decide

example : check gf2 [true, false] [true, true] (ip gf2 [true, true] [true, false]) = false := check_honest gf2 _ _

example : (fun l : List Bool => l) ([false, true].set 1 (gf2.add true true)) ≠ (fun l : List Bool => l) [false, true] :=
  shuffle_tamper_core gf2 (fun l => l) (fun _ _ h => h) [false, true] 1 (by decide) true (by decide)


/-- the reduction polynomial regenerated from `galois_field.rs` is the one the model multiplies with:
`x · x^31 = x^32 ≡ x^7 + x^3 + x^2 + 1` (`2147483648 = 2^31`, `141 = 0x8D`), `1` is neutral on the all-ones word
`2^32 - 1` (the key appended for the tag column), and `(x + 1)² = x² + 1` in characteristic 2. -/
theorem gf32_spot : gfMul 2 2147483648 = 141 ∧ gfMul 4294967295 1 = 4294967295 ∧ gfMul 3 3 = 5 := by decide

end IpaVerif.C05
