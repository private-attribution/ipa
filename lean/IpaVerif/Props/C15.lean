import IpaVerif.Proofs.SeqJoinProgress
/-!
# C15 — sequential join returns results in input order within a bounded window

Model: `IpaVerif.Model.SeqJoin` (transcription of `seq_join/local.rs`, `seq_try_join_all`,
`SeqJoin::parallel_join`).  Theorems quantify over **every** number of tasks `n`, every capacity
`cap` of the active deque (`VecDeque::with_capacity(w)`, read back from the real object by the
suite), and every schedule `envs`: per `poll_next` call, how many items the source is willing to
yield before answering `Pending`, and which futures complete when polled (possibly depending on
which tasks have started).
-/
namespace IpaVerif.C15
open IpaVerif.SeqJoin

/-- Whatever the schedule, the items emitted so far are `0,1,…,k-1` in
this order (each task's result exactly once, in input order), `k ≤ n`, and `None` is answered only
after all `n` results were emitted. -/
theorem outputs_in_order_once (n cap : Nat) (envs : List Env) :
    let obs := (run (State.new n cap) envs).2
    items obs = List.range (items obs).length ∧ (items obs).length ≤ n ∧
    (∀ pre o post, obs = pre ++ o :: post → o.out = .finished → items pre = List.range n) := by
  intro obs
  obtain ⟨hI, _, hfin⟩ := run_spec envs (State.new n cap) [] (inv_new n cap)
  obtain ⟨h1, _, h3⟩ := range_eq_append ((List.append_assoc ..).symm.trans hI.order)
  exact ⟨h1, Nat.le.intro h3, hfin⟩

/-- In every reachable state, a call during which the source is willing
to yield (`budget ≥ cap`) and that answers `Pending` leaves the window full (`active.len() = cap ≥ w`)
unless the source is exhausted; and the window never exceeds the capacity. -/
theorem active_at_least_window (n cap : Nat) (hc : 0 < cap) (envs : List Env) (env : Env)
    (hb : cap ≤ env.budget) :
    let s := (run (State.new n cap) envs).1
    s.active.length ≤ cap ∧
    ((step s env).2.out = .pending → (step s env).1.active.length = cap ∨ (step s env).1.src = []) := by
  intro s
  obtain ⟨hI, hcap, _⟩ := run_spec envs (State.new n cap) [] (inv_new n cap)
  have hcap' : s.cap = cap := hcap
  have hfull := fun hp => ((step_spec hI env _ rfl).pending hp).full
  rw [hcap'] at hfull
  exact ⟨hcap' ▸ hI.len, fun hp => hfull hp hb⟩

/-- the bound in terms of the invariant: any state satisfying `Inv`, any environment of the next call -/
theorem at_most_cap {n : Nat} {s : State} {em : List Nat} (hI : Inv n s em) (env : Env) :
    s.active.length ≤ s.cap ∧
    (refill (s.cap + 1) s 0 env.budget).1.active.length ≤ s.cap ∧
    (step s env).1.active.length ≤ s.cap ∧ (step s env).1.cap = s.cap ∧
    (n - s.src.length) - em.length ≤ s.cap ∧
    (n - (refill (s.cap + 1) s 0 env.budget).1.src.length) - em.length ≤ s.cap := by
  obtain ⟨hI1, hc1, _⟩ := refill_spec (s.cap + 1) s 0 env.budget hI
  have hc2 := (step_spec hI env _ rfl).cap
  have hlen1 := hc1 ▸ hI1.len
  exact ⟨hI.len, hlen1, hc2 ▸ (step_inv hI env).len, hc2, (in_flight_eq hI).symm ▸ hI.len,
    (in_flight_eq hI1).symm ▸ hlen1⟩

/-- The window is BOUNDED by the requested `w` (`VecDeque::with_capacity(w)`; the
capacity never changes because nothing is pushed onto a full deque): for every number of tasks, every window,
every schedule — in every reachable state, at the PEAK inside the next call (after the refill loop, before the
head is handed out) and after that call, at most `w` tasks are in flight; and "in flight" is what an observer
counts: tasks drawn from the source so far minus results handed out so far never exceeds `w`, whatever the
source is willing to yield (`env.budget` arbitrary) and however often the join is re-polled with a blocked head. -/
theorem active_at_most_window (n w : Nat) (envs : List Env) (env : Env) :
    let s := (run (State.new n w) envs).1
    let obs := (run (State.new n w) envs).2
    s.cap = w ∧ s.active.length ≤ w ∧
    (refill (s.cap + 1) s 0 env.budget).1.active.length ≤ w ∧
    (step s env).1.active.length ≤ w ∧ (step s env).1.cap = w ∧
    (n - s.src.length) - (items obs).length ≤ w ∧
    (n - (refill (s.cap + 1) s 0 env.budget).1.src.length) - (items obs).length ≤ w := by
  intro s obs
  obtain ⟨hI, hcap, _⟩ := run_spec envs (State.new n w) [] (inv_new n w)
  simp only [List.nil_append] at hI
  have hcap' : s.cap = w := hcap
  obtain ⟨a, b, c, d, e, f⟩ := at_most_cap hI env
  have hw : s.cap ≤ w := Nat.le_of_eq hcap'
  exact ⟨hcap', Nat.le_trans a hw, Nat.le_trans b hw, Nat.le_trans c hw, d.trans hcap', Nat.le_trans e hw, Nat.le_trans f hw⟩

/-- NOT the code — the refill loop with the capacity check AFTER the push
(`while let Ready(Some(f)) = source.poll_next() { push; if len >= capacity { break } }`): entered with a full
deque it pushes once more, the deque reallocates and `capacity()` doubles (`VecDeque::grow`). -/
def refillAfterPush : Nat → State → Nat → Nat → State × Nat × Nat
  | 0, s, pulled, budget => (s, pulled, budget)
  | fuel + 1, s, pulled, budget =>
    if s.srcDone then (s, pulled, budget)
    else match s.src with
      | [] => ({ s with srcDone := true }, pulled, budget)
      | t :: rest =>
        if budget = 0 then (s, pulled, budget)
        else
          let cap' := if s.active.length = s.cap then 2 * s.cap else s.cap     -- push onto a full deque grows it
          let s' := { s with src := rest, active := s.active ++ [.pending t], cap := cap' }
          if s'.active.length ≥ s'.cap then (s', pulled + 1, budget - 1)
          else refillAfterPush fuel s' (pulled + 1) (budget - 1)

/-- Window 1, two tasks, the head blocked, the source always
willing. First poll: one task drawn by either loop. SECOND poll (any wake-up of a full window): the code's loop
draws nothing; the check-after-push loop draws task 1 as well — 2 tasks in flight with a window of 1 — and
the capacity is now 2, so the overrun is invisible to any comparison against `capacity()`. With window 2 and
eight tasks three re-polls put all eight in flight. -/
theorem check_after_push_counterexample :
    let s1 := (refill 2 (State.new 2 1) 0 9).1
    let t1 := (refillAfterPush 9 (State.new 2 1) 0 9).1
    s1.active.length = 1 ∧ t1.active.length = 1 ∧
    (refill 2 s1 0 9).1.active.length = 1 ∧
    (refillAfterPush 9 t1 0 9).1.active.length = 2 ∧ (refillAfterPush 9 t1 0 9).1.cap = 2 ∧
    (refillAfterPush 9 (refillAfterPush 9 (refillAfterPush 9 (refillAfterPush 9 (State.new 8 2) 0 9).1 0 9).1 0 9).1 0 9).1.active.length = 8 := by
  decide

/-- When a call answers `Pending`, every future of the window that
had not completed yet was polled in that call (the head first, then the others in order), and every
task of the window has been polled at least once by then. -/
theorem all_active_polled_on_pending (n cap : Nat) (envs : List Env) (env : Env) :
    let s := (run (State.new n cap) envs).1
    (step s env).2.out = .pending →
      (step s env).2.polled = pendingIds (refill (s.cap + 1) s 0 env.budget).1.active ∧
      ∀ sl, sl ∈ (step s env).1.active → sl.id ∈ (step s env).1.started := by
  intro s hp
  obtain ⟨hI, _, _⟩ := run_spec envs (State.new n cap) [] (inv_new n cap)
  have h := (step_spec hI env _ rfl).pending hp
  exact ⟨h.polled, h.started⟩

/-- If the source is always ready and each task completes once the
tasks at most `d` positions after it have been polled (the pattern of `validated_seq_join`, where
record `k` waits for its whole batch to reach validation), then `d + 1 ≤ cap` suffices for the join
to finish: within `2n + 2` polls the stream answers `None`, having emitted all `n` results in order.
No head-of-line deadlock inside the window. -/
theorem window_dependency_progress (n cap d : Nat) (hc : 0 < cap) (hd : d + 1 ≤ cap) :
    let obs := (run (State.new n cap) (List.replicate (2 * n + 2) (depEnv n d (cap + 1)))).2
    (∃ o, o ∈ obs ∧ o.out = .finished) ∧ items obs = List.range n := by
  intro obs
  have hm : progressMeasure (State.new n cap) < 2 * n + 2 :=
    Nat.lt_of_le_of_lt (progressMeasure_le _) (by simp [State.new])
  obtain ⟨o, ho, hfin⟩ := dep_progress (2 * n + 2) (State.new n cap) [] (inv_new n cap) hc hd hm
  obtain ⟨h3, h4, h5⟩ := outputs_in_order_once n cap (List.replicate (2 * n + 2) (depEnv n d (cap + 1)))
  refine ⟨⟨o, ho, hfin⟩, ?_⟩
  -- `None` is answered only after everything was emitted; later polls emit nothing more
  obtain ⟨pre, post, hsplit⟩ := List.append_of_mem ho
  exact eq_range_of_prefix h3 h4 ((congrArg items hsplit).trans (items_append ..)) (h5 pre o post hsplit hfin)

example : (0 : Nat) < 4 ∧ 3 + 1 ≤ 4 := by decide

/-- The join that `seq_try_join_all(active, iter)` / `SeqJoin::try_join(iter)` builds has capacity `active`
whatever lower bound the iterator's `size_hint()` reports (`filter`, `flat_map`, `take_while`: 0;
`chain(exact k, filtered)`: `k`), so `window_dependency_progress` applies to it.  (A window clamped to the size
hint would be 1 for a filtered iterator and the join would hang as soon as task 0 waits for task 1: the
`c15.hint` cases of suite `c15_local`.) -/
theorem window_independent_of_size_hint (active n hint hint' d : Nat) :
    seqTryJoinAllNew active n hint = seqTryJoinAllNew active n hint' ∧
    (seqTryJoinAllNew active n hint).cap = active ∧
    (0 < active → d + 1 ≤ active →
      let obs := (run (seqTryJoinAllNew active n hint)
        (List.replicate (2 * n + 2) (depEnv n d (active + 1)))).2
      (∃ o, o ∈ obs ∧ o.out = .finished) ∧ items obs = List.range n) :=
  ⟨rfl, rfl, fun hc hd => window_dependency_progress n active d hc hd⟩

example : (seqTryJoinAllNew 4 9 0).cap = 4 ∧ (3 : Nat) + 1 ≤ 4 := by decide

/-- `seq_try_join_all` driven by any sequence of polls: if it
returns `Err`, it is the error of the *first* failing task in input order (all earlier tasks
succeeded), whatever the completion order; if it returns `Ok`, it holds all `n` results in input
order and no task failed.  (The `TryCollect` future completes at that point: nothing is polled
afterwards.) -/
theorem try_stops_after_first_error (n cap : Nat) (isErr : Nat → Bool)
    (rs : List (List Nat → Nat → Bool)) :
    (∀ l, tryRun isErr (State.new n cap) [] rs = .ok l → l = List.range n ∧ ∀ j, j < n → isErr j = false) ∧
    (∀ i, tryRun isErr (State.new n cap) [] rs = .err i →
      isErr i = true ∧ i < n ∧ ∀ j, j < i → isErr j = false) :=
  tryRun_spec isErr rs (State.new n cap) [] (inv_new n cap) (fun _ h => by cases h)

/-- Under the contract of `futures::future::try_join_all` transcribed in
`parPoll` (poll the unfinished futures in input order, stop at the first error met, otherwise return
all outputs in input order once all are done): `Ok` carries every task in input order and no task
polled in this call failed; `Err i` is the error of a task that was still pending, completed now and
failed. -/
theorem parallel_join_spec (isErr : Nat → Bool) (ready : Nat → Bool) (tasks : List (Nat × Bool)) :
    (∀ l, (parPoll isErr ready tasks).2.1 = .ok l →
      l = tasks.map (·.1) ∧ (∀ t, t ∈ tasks → t.2 = true ∨ ready t.1 = true) ∧
      ∀ t, t ∈ tasks → t.2 = false → ¬ (ready t.1 = true ∧ isErr t.1 = true)) ∧
    (∀ i, (parPoll isErr ready tasks).2.1 = .err i →
      isErr i = true ∧ ready i = true ∧ (i, false) ∈ tasks) := by
  unfold parPoll
  dsimp only
  split
  · rename_i i hf
    refine ⟨nofun, fun j hj => ?_⟩
    cases hj
    have h1 := List.find?_some hf
    rw [Bool.and_eq_true] at h1
    obtain ⟨⟨a, b⟩, ht, rfl⟩ := List.mem_map.1 (List.mem_of_find?_eq_some hf)
    obtain ⟨ht1, ht2⟩ := List.mem_filter.1 ht
    cases b
    · exact ⟨h1.2, h1.1, ht1⟩
    · cases ht2
  · rename_i hf
    split
    · rename_i hall
      refine ⟨fun l hl => ?_, nofun⟩
      cases hl
      refine ⟨by simp [Function.comp_def], fun t ht => ?_, fun t ht hd hre => ?_⟩
      · simpa using List.all_eq_true.1 hall (t.1, t.2 || ready t.1) (List.mem_map.2 ⟨t, ht, rfl⟩)
      · have := List.find?_eq_none.1 hf t.1 (List.mem_map.2 ⟨t, List.mem_filter.2 ⟨ht, by simp [hd]⟩, rfl⟩)
        simp [hre.1, hre.2] at this
    · exact ⟨nofun, nofun⟩

end IpaVerif.C15
