import IpaVerif.Props.C04
/-!
# C04 — every `Reveal` impl of a malicious-mode context is the two-copy opening

`Generated/MacReveal.lean` lists EVERY `impl … Reveal<Ctx> for Sharing` of `protocol/basics/reveal.rs` with the opening
it delegates to (`malicious_reveal` = `twoCopy`, `semi_honest_reveal` = `oneCopy`, the element type's own impl =
`perElement`), re-read from the sources on every run (the translator also checks that no impl is missed and that no
other file implements `Reveal`).  `Model/Mac.lean` resolves the table to concrete instances (`resolvedImpls`).
-/
namespace IpaVerif.C04
open IpaVerif.Sharing IpaVerif.Mac IpaVerif.Generated.Mac IpaVerif.Generated.MacReveal

variable {R : Type} [CommRing R]

/-- every instance for a context of a malicious mode (`UpgradedMaliciousContext`, `ShardedUpgradedMaliciousContext`,
`DZKPUpgradedMaliciousContext`) delegates to the two-copy opening. -/
theorem reveal_impls_two_copy :
    ∀ r ∈ resolvedImpls, isMaliciousCtx r.1 = true → r.2.2 = RevealFn.twoCopy := by decide +kernel

/-- every upgraded malicious-mode context of `protocol/context/mod.rs` is classified as such and has instances for
`Replicated` (the impl `eval_dy_prf` uses to open `R = g^r`) and `BitDecomposed<Replicated>`; the MAC contexts have one
for `MaliciousReplicated`; every context named by an impl is classified; no impl delegates to something the translator
could not identify. -/
theorem reveal_impls_cover :
    (∀ c ∈ upgradedMaliciousContexts, isMaliciousCtx c = true ∧
        resolveImpl c "Replicated" = some RevealFn.twoCopy ∧
        resolveImpl c "BitDecomposed<Replicated>" = some RevealFn.twoCopy) ∧
    resolveImpl "UpgradedMaliciousContext" "MaliciousReplicated" = some RevealFn.twoCopy ∧
    resolveImpl "ShardedUpgradedMaliciousContext" "MaliciousReplicated" = some RevealFn.twoCopy ∧
    (∀ i ∈ revealImpls, i.fn ≠ RevealFn.unknown ∧ (i.ctx = "*" ∨ (contextModules.lookup i.ctx).isSome = true) ∧
        (i.ctx = "*" ↔ i.fn = RevealFn.perElement)) ∧
    (∀ r ∈ resolvedImpls, r.2.2 = RevealFn.twoCopy ∨ r.2.2 = RevealFn.oneCopy) := by decide +kernel

/-- any instance for a malicious-mode context, a consistent sharing, helper `c`
deviating with arbitrary messages: every other helper `h` fails the opening or obtains the shared value. -/
theorem reveal_via_impl_two_copies [DecidableEq R] (r : String × String × RevealFn) (hr : r ∈ resolvedImpls)
    (hm : isMaliciousCtx r.1 = true) (w : World R) (hw : Consistent w) (c h : Nat) (hc : c < 3) (hh : h < 3)
    (hne : h ≠ c) (mL mR : R) :
    revealVia (ringAlg R) r.2.2 w c h mL mR = none ∨ revealVia (ringAlg R) r.2.2 w c h mL mR = some (rec w) := by
  rw [reveal_impls_two_copy r hr hm]
  exact reveal_two_copies w hw c h hc hh hne mL mR

/-- non-vacuity: the impl used by `eval_dy_prf` to open `R = g^r` is such an instance. -/
example : ("UpgradedMaliciousContext", "Replicated", RevealFn.twoCopy) ∈ resolvedImpls ∧
    isMaliciousCtx "UpgradedMaliciousContext" = true := by decide +kernel

/-- nobody deviates (helper `c` sends what it should): the opening through a two-copy or
a one-copy instance returns the shared value on every helper. -/
theorem reveal_via_impl_honest [DecidableEq R] (fn : RevealFn) (hfn : fn = RevealFn.twoCopy ∨ fn = RevealFn.oneCopy)
    (w : World R) (hw : Consistent w) (c h : Nat) (hh : h < 3) :
    revealVia (ringAlg R) fn w c h (revealMsgToLeft (view w c)) (revealMsgToRight (view w c)) = some (rec w) := by
  have hon := reveal_honest w hw h hh
  -- a peer of `h` that is `c` (modulo 3) has the same view as `c`, so `c`'s messages are that peer's honest ones
  have hite : ∀ (f : HShare R → R) k, (if k % 3 = c % 3 then f (view w c) else f (view w k)) = f (view w k) := by
    intro f k
    split
    · next e => rw [view_congr w e]
    · rfl
  rcases hfn with rfl | rfl
  · rw [revealVia, revealCorrupt, hite, hite]; exact hon
  · obtain ⟨a, _, s⟩ := view_cyc hw h
    rw [revealVia, revealAtOne, show (view w (h + 2)).l = revealMsgToRight (view w (h + 2)) from rfl, hite, ← s, a]
    rfl

/-- the variant the table must not contain for a malicious-mode context: with
`semi_honest_reveal` the right neighbour `c+1` of a deviating helper `c` that adds `d` to the share it sends opens
`value + d`, and no helper's opening fails. -/
theorem one_copy_reveal_undetected [DecidableEq R] (w : World R) (hw : Consistent w) (c : Nat) (d mL : R) :
    revealVia (ringAlg R) RevealFn.oneCopy w c (c % 3 + 1) mL ((view w c).l + d) = some (rec w + d) ∧
    (∀ h mR, revealVia (ringAlg R) RevealFn.oneCopy w c h mL mR ≠ none) := by
  refine ⟨?_, fun h mR => Option.some_ne_none _⟩
  -- helper `c % 3 + 1` is `c`'s right neighbour: it adds its own two shares to what `c` sent
  obtain ⟨_, b, s⟩ := view_cyc hw c
  have hn : view w (c % 3 + 1) = view w (c + 1) := (view_add w c 1).symm
  rw [revealVia, revealAtOne, if_pos (by rw [Nat.add_assoc, Nat.add_mod_right, Nat.mod_mod]), hn, b, ← s]
  simp only [ringAlg, Option.some.injEq]; ring

/-- non-vacuity of `one_copy_reveal_undetected`, Fp31: the sharing of 5 opened as 5 + 9 = 14 by helper 2 when helper 1
deviates. -/
example : revealVia (modAlg 31) RevealFn.oneCopy (share (modAlg 31) 5 1 2) 1 2 0 ((2 + 9) % 31) = some 14 := by decide

end IpaVerif.C04
