import IpaVerif.Model.Dp
import IpaVerif.Proofs.DpSampler
import IpaVerif.Props.C07
import Mathlib.Algebra.Order.Field.Basic
import Mathlib.Algebra.Order.Archimedean.Basic
import Mathlib.Analysis.SpecificLimits.Basic
import Mathlib.Tactic.Ring
import Mathlib.Tactic.Linarith
/-!
# C12 — privacy noise and dummy records follow the documented (ε, δ) law

For any arithmetic `Arith α` (IEEE doubles included): the search of `find_smallest_n` and what the constructors accept.
For `Model.Dp` read in a linearly ordered field (`fieldArith`): `pow_u32` is exponentiation and `right_hand_side` is the
tail mass of the truncated discrete Laplace law, antitone in `n`. Over ℝ: the double-geometric series behind `sampler_law`
(`Props/C12Sampler`). On naturals and bits: the sample-to-share mapping and the noise passes.
f64 rounding is outside these statements; it is measured by the correspondence suite `c12_shift`
(bit-exact model over IEEE doubles + exact dyadic oracle with a 1e-9 band).
-/
namespace IpaVerif.C12
open IpaVerif.Dp

theorem findSmallestN_spec {α : Type} (A : Arith α) (bigDelta : Nat) (r delta : α) :
    ∀ (steps start n : Nat), findSmallestN A bigDelta r delta steps start = some n →
      start ≤ n ∧ n < start + steps ∧ A.le (rightHandSide A n bigDelta r) delta = true ∧
      ∀ m, start ≤ m → m < n → A.le (rightHandSide A m bigDelta r) delta = false := by
  intro steps start n h
  fun_induction findSmallestN A bigDelta r delta steps start with
  | case1 => cases h
  | case2 steps start hle =>
    cases h
    exact ⟨le_refl _, Nat.lt_add_of_pos_right steps.succ_pos, hle, fun m h1 h2 => absurd h2 (Nat.not_lt.mpr h1)⟩
  | case3 steps start hle ih =>
    obtain ⟨i1, i2, i3, i4⟩ := ih h
    refine ⟨Nat.le_of_succ_le i1, Nat.add_right_comm start 1 steps ▸ i2, i3, fun m h1 h2 => ?_⟩
    rcases Nat.eq_or_lt_of_le h1 with rfl | hlt
    · exact Bool.eq_false_iff.mpr hle
    · exact i4 m hlt h2

theorem findSmallestN_complete {α : Type} (A : Arith α) (bigDelta : Nat) (r delta : α) :
    ∀ (steps start m : Nat), start ≤ m → m < start + steps → A.le (rightHandSide A m bigDelta r) delta = true →
      ∃ n, findSmallestN A bigDelta r delta steps start = some n ∧ n ≤ m := by
  intro steps start m h1 h2 h3
  fun_induction findSmallestN A bigDelta r delta steps start with
  | case1 => exact absurd h2 (Nat.not_lt.mpr h1)
  | case2 steps start hle => exact ⟨start, rfl, h1⟩
  | case3 steps start hle ih =>
    rcases Nat.eq_or_lt_of_le h1 with rfl | hlt
    · exact absurd h3 hle
    · exact ih hlt (Nat.add_right_comm start 1 steps ▸ h2)

/-- the capped search answers the sentinel `cap + 1` exactly when no candidate in `[Δ, cap]` meets the criterion; it never
returns `cap` (or anything `≤ cap`) for a parameter set whose tail mass at that point is above `δ`. -/
theorem find_smallest_n_cap {α : Type} (A : Arith α) (cap bigDelta : Nat) (r delta : α) (hd : bigDelta ≤ cap) :
    let n := findSmallestNCapped A cap bigDelta r delta
    (n ≤ cap → bigDelta ≤ n ∧ A.le (rightHandSide A n bigDelta r) delta = true ∧
        ∀ m, bigDelta ≤ m → m < n → A.le (rightHandSide A m bigDelta r) delta = false) ∧
    (n ≤ cap ∨ n = cap + 1) ∧
    (n = cap + 1 ↔ ∀ m, bigDelta ≤ m → m ≤ cap → A.le (rightHandSide A m bigDelta r) delta = false) := by
  unfold findSmallestNCapped
  have hspan : bigDelta + (cap + 1 - bigDelta) = cap + 1 := Nat.add_sub_cancel' (Nat.le_succ_of_le hd)
  cases hf : findSmallestN A bigDelta r delta (cap + 1 - bigDelta) bigDelta with
  | none =>
    have hall : ∀ m, bigDelta ≤ m → m ≤ cap → A.le (rightHandSide A m bigDelta r) delta = false :=
      fun m h1 h2 => Bool.eq_false_iff.mpr fun hm => by
        obtain ⟨k, hk, _⟩ := findSmallestN_complete A bigDelta r delta (cap + 1 - bigDelta) bigDelta m h1 (hspan.symm ▸ Nat.lt_succ_of_le h2) hm
        rw [hf] at hk; cases hk
    exact ⟨fun h => absurd h (Nat.not_succ_le_self cap), Or.inr rfl, fun _ => hall, fun _ => rfl⟩
  | some k =>
    obtain ⟨h1, h2, h3, h4⟩ := findSmallestN_spec A bigDelta r delta (cap + 1 - bigDelta) bigDelta k hf
    rw [hspan] at h2
    have hk : k ≤ cap := Nat.le_of_lt_succ h2
    simp only [Option.getD_some]
    exact ⟨fun _ => ⟨h1, h3, h4⟩, Or.inl hk, fun h => absurd (h.symm.le.trans hk) (Nat.not_succ_le_self cap),
      fun h => absurd h3 (Bool.eq_false_iff.mp (h k h1 hk))⟩

/-! ### constructors

Each constructor is a chain of guards `if c { return Err(e) }`; `guard_ok_iff` turns the chain into the conjunction
of the negated conditions, for any arithmetic; the `*_accept_iff` tables over an ordered field are these read through
`fieldArith`. -/

theorem guard_ok_iff {ε β : Type} {c : Prop} [Decidable c] (e : ε) (x : Except ε β) (v : β) :
    (if c then .error e else x) = .ok v ↔ ¬ c ∧ x = .ok v := by
  by_cases h : c <;> simp [h]

theorem oprfRange_ok_iff {α : Type} (A : Arith α) (cap : Nat) (eps delta : α) (sens : Nat) :
    oprfRange A cap eps delta sens = .ok () ↔
      (A.lt eps A.minPos = false ∧ A.le A.minPos delta = true ∧ A.le delta (A.sub A.one A.minPos) = true ∧
        sens ≤ cap) := by
  simp only [oprfRange, guard_ok_iff, Bool.not_eq_true', Bool.not_eq_false, Bool.not_eq_true, Bool.and_eq_true,
    gt_iff_lt, not_lt, and_true, and_assoc]

theorem geometricNew_ok_iff {α : Type} (A : Arith α) (p : α) :
    geometricNew A p = .ok () ↔ A.lt p A.minPos = false ∧ bernoulliOk A p = true := by
  simp only [geometricNew, guard_ok_iff, Bool.not_eq_true]
  cases bernoulliOk A p <;> simp

theorem truncatedNew_ok_iff {α : Type} (A : Arith α) (cap : Nat) (s : α) (shift : Nat) (p : α) (d : Nat) :
    truncatedNew A cap s shift p = .ok d ↔
      (A.lt s A.minPos = false ∧ shift ≤ cap ∧ geometricNew A p = .ok () ∧ d = 2 * shift) := by
  simp only [truncatedNew, doubleGeometricNew, guard_ok_iff, Bool.not_eq_true, gt_iff_lt, not_lt]
  -- `DoubleGeometric::new` repeats the two guards that have just passed
  refine and_congr_right fun h1 => and_congr_right fun h2 => ?_
  rw [if_neg (Bool.eq_false_iff.mp h1), if_neg (Nat.not_lt.mpr h2)]
  cases geometricNew A p <;> simp [eq_comm]

/-- F13, any arithmetic (in particular IEEE doubles, where every comparison with NaN is `false`): `NoiseParams::new`
accepts iff each written comparison *holds* — `0 < x` for the seven range-checked parameters, `0 ≤ p ≤ 1` for
`success_prob`.  Nothing is assumed about `lt`/`le` (no totality, no relation between them). -/
theorem noise_accept_any {α : Type} (A : Arith α) (eps delta succ dims qs l1 l2 linf : α) :
    noiseParamsNew A eps delta succ dims qs l1 l2 linf = .ok () ↔
      (A.lt A.zero eps = true ∧ A.lt A.zero delta = true ∧ A.le A.zero succ = true ∧ A.le succ A.one = true ∧
       A.lt A.zero dims = true ∧ A.lt A.zero qs = true ∧ A.lt A.zero l1 = true ∧ A.lt A.zero l2 = true ∧
       A.lt A.zero linf = true) := by
  simp only [noiseParamsNew, guard_ok_iff, Bool.not_eq_true', Bool.not_eq_false, Bool.and_eq_true, and_true,
    and_assoc]

/-- a value that is not greater than zero under the arithmetic's own `<` (NaN for IEEE doubles) is rejected in every
range-checked slot, whatever the other parameters are. -/
theorem noise_rejects_unordered {α : Type} (A : Arith α) (x : α) (hx : A.lt A.zero x = false)
    (eps delta succ dims qs l1 l2 linf : α)
    (hslot : eps = x ∨ delta = x ∨ dims = x ∨ qs = x ∨ l1 = x ∨ l2 = x ∨ linf = x) :
    noiseParamsNew A eps delta succ dims qs l1 l2 linf ≠ .ok () := by
  intro h
  obtain ⟨h1, h2, _, _, h5, h6, h7, h8, h9⟩ := (noise_accept_any A eps delta succ dims qs l1 l2 linf).mp h
  have hx' := Bool.eq_false_iff.mp hx
  rcases hslot with rfl | rfl | rfl | rfl | rfl | rfl | rfl
  exacts [hx' h1, hx' h2, hx' h5, hx' h6, hx' h7, hx' h8, hx' h9]

/-- a three-point arithmetic with an unordered element (`none` plays NaN: every comparison with it is `false`,
as for IEEE doubles) — the witness domain for F13. -/
def nanArith : Arith (Option Int) :=
  { zero := some 0, one := some 1, two := some 2,
    add := fun a b => do pure ((← a) + (← b)), sub := fun a b => do pure ((← a) - (← b)),
    mul := fun a b => do pure ((← a) * (← b)), div := fun a b => do pure ((← a) / (← b)),
    lt := fun a b => match a, b with | some a, some b => decide (a < b) | _, _ => false,
    le := fun a b => match a, b with | some a, some b => decide (a ≤ b) | _, _ => false,
    eq := fun a b => match a, b with | some a, some b => decide (a = b) | _, _ => false,
    minPos := some 1 }

-- `none` is unordered: the hypothesis `hx` of `noise_rejects_unordered` can be met
example : nanArith.lt nanArith.zero none = false := rfl

/-- F13 (unfixed code, checks written `x <= 0.0`): an unordered value passed the range check; the fixed check
`!(x > 0.0)` rejects it.  On an ordered field the two forms agree (`noise_range_fixed_eq_unfixed`). -/
theorem noise_range_unfixed_counterexample :
    noiseRangeRejectUnfixed nanArith none = false ∧ noiseRangeReject nanArith none = true ∧
    noiseParamsNew nanArith none (some 1) (some 1) (some 1) (some 1) (some 1) (some 1) (some 1)
      = .error "epsilon must be > 0.0" := by decide

theorem oprfNew_ok_iff {α : Type} (A : Arith α) (cap : Nat) (eps delta : α) (sens : Nat) (r p : α) (n : Nat) :
    oprfNew A cap eps delta sens r p = .ok n ↔
      (oprfRange A cap eps delta sens = .ok () ∧ findSmallestNCapped A cap sens r delta = n ∧
        A.lt (A.div A.one eps) A.minPos = false ∧ n ≤ cap ∧ geometricNew A p = .ok ()) := by
  unfold oprfNew
  cases oprfRange A cap eps delta sens with
  | error e => simp
  | ok u =>
    simp only [true_and]
    generalize findSmallestNCapped A cap sens r delta = k
    have ht := truncatedNew_ok_iff A cap (A.div A.one eps) k p
    cases h : truncatedNew A cap (A.div A.one eps) k p with
    | error e =>
      simp only [reduceCtorEq, false_iff]
      rintro ⟨rfl, h1, h2, h3⟩
      exact absurd ((ht _).mpr ⟨h1, h2, h3, rfl⟩) (by simp [h])
    | ok d =>
      obtain ⟨h1, h2, h3, rfl⟩ := (ht d).mp h
      simp only [Except.ok.injEq, Nat.mul_div_cancel_left k Nat.two_pos, h1, h3, true_and, and_true]
      exact ⟨fun hk => ⟨hk, hk ▸ h2⟩, fun hk => hk.1⟩

/-- any arithmetic: if no truncation point up to the cap meets the criterion, `OPRFPaddingDp::new`
returns an error (`BadShiftValue`, unless an earlier check already failed) — it never hands out a distribution truncated at
the cap whose tail mass is above `δ`. -/
theorem oprf_rejects_sentinel {α : Type} (A : Arith α) (cap : Nat) (eps delta : α) (sens : Nat) (r p : α)
    (hall : ∀ m, sens ≤ m → m ≤ cap → A.le (rightHandSide A m sens r) delta = false) :
    (∀ n, oprfNew A cap eps delta sens r p ≠ .ok n) ∧
    (oprfRange A cap eps delta sens = .ok () → A.lt (A.div A.one eps) A.minPos = false →
      oprfNew A cap eps delta sens r p = .error .badShiftValue) := by
  have hsent : oprfRange A cap eps delta sens = .ok () → findSmallestNCapped A cap sens r delta = cap + 1 :=
    fun hr => (find_smallest_n_cap A cap sens r delta ((oprfRange_ok_iff A cap eps delta sens).mp hr).2.2.2).2.2.mpr hall
  refine ⟨fun n h => ?_, fun hr hS => ?_⟩
  · obtain ⟨hr, rfl, _, hn, _⟩ := (oprfNew_ok_iff A cap eps delta sens r p n).mp h
    rw [hsent hr] at hn
    exact Nat.not_succ_le_self cap hn
  · simp [oprfNew, hr, hsent hr, truncatedNew, hS]

/-- any arithmetic: whenever `OPRFPaddingDp::new` accepts, the shift it hands out is `≤ cap`,
`≥ Δ`, meets `tail(n) ≤ δ` under the arithmetic's own comparison, and no smaller candidate does. -/
theorem oprf_accept_meets_delta {α : Type} (A : Arith α) (cap : Nat) (eps delta : α) (sens : Nat) (r p : α) (n : Nat)
    (h : oprfNew A cap eps delta sens r p = .ok n) :
    sens ≤ n ∧ n ≤ cap ∧ A.le (rightHandSide A n sens r) delta = true ∧
      ∀ m, sens ≤ m → m < n → A.le (rightHandSide A m sens r) delta = false := by
  obtain ⟨hr, rfl, _, hn, _⟩ := (oprfNew_ok_iff A cap eps delta sens r p n).mp h
  obtain ⟨h1, h2, h3⟩ := (find_smallest_n_cap A cap sens r delta ((oprfRange_ok_iff A cap eps delta sens).mp hr).2.2.2).1 hn
  exact ⟨h1, hn, h2, h3⟩

/-- the variant of the search that clamps "not found" to the cap: `(Δ..=MAX_SHIFT).find(…).unwrap_or(MAX_SHIFT)` -/
def findSmallestNClamped {α : Type} (A : Arith α) (cap bigDelta : Nat) (r smallDelta : α) : Nat :=
  (findSmallestN A bigDelta r smallDelta (cap + 1 - bigDelta) bigDelta).getD cap

/-- with a criterion that never holds (tail mass above `δ` at every candidate) the
clamped search answers `cap`, an admissible shift, where the code answers the sentinel `cap + 1`: "not found" has become
indistinguishable from "the cap meets the criterion" (`find_smallest_n_cap` fails for it). -/
theorem clamped_search_counterexample :
    findSmallestNClamped nanArith 5 1 none (some 0) = 5 ∧ findSmallestNCapped nanArith 5 1 none (some 0) = 6 ∧
    nanArith.le (rightHandSide nanArith 5 1 none) (some 0) = false := by decide

theorem pow_halve {M : Type} [Monoid M] (c : M) (k : Nat) : c ^ k = (c * c) ^ (k / 2) * c ^ (k % 2) := by
  rw [← pow_two, ← pow_mul, ← pow_add, Nat.div_add_mod]

def sumRange {K : Type} [Field K] : Nat → (Nat → K) → K
  | 0, _ => 0
  | k + 1, f => sumRange k f + f k

theorem sumRange_eq_sum_range {K : Type} [Field K] (f : Nat → K) : ∀ k, sumRange k f = ∑ i ∈ Finset.range k, f i
  | 0 => rfl
  | k + 1 => by rw [sumRange, sumRange_eq_sum_range f k, Finset.sum_range_succ]

theorem sumRange_mul_const {K : Type} [Field K] (c : K) (f : Nat → K) (k : Nat) :
    sumRange k (fun y => c * f y) = c * sumRange k f := by
  rw [sumRange_eq_sum_range, sumRange_eq_sum_range, Finset.mul_sum]

theorem geom_closed {K : Type} [Field K] (r : K) (a d : Nat) : (1 - r) * sumRange d (fun j => r ^ (a + j)) = r ^ a - r ^ (a + d) := by
  rw [sumRange_eq_sum_range]
  simp only [pow_add]
  rw [← Finset.mul_sum, mul_left_comm, mul_neg_geom_sum, mul_sub, mul_one]

section
variable {K : Type} [Field K] [LinearOrder K]
set_option linter.unusedSectionVars false

/-- the `f64` operations interpreted in a linearly ordered field (`ℚ`, `ℝ`); `mp` plays `f64::MIN_POSITIVE`. -/
def fieldArith (K : Type) [Field K] [LinearOrder K] (mp : K) : Arith K :=
  { zero := 0, one := 1, two := 2, add := (· + ·), sub := (· - ·), mul := (· * ·), div := (· / ·),
    lt := fun a b => decide (a < b), le := fun a b => decide (a ≤ b), eq := fun a b => decide (a = b), minPos := mp }

theorem powEven_spec (mp : K) : ∀ (f : Nat) (b : K) (e : Nat),
    (powEven (fieldArith K mp) f b e).1 ^ (powEven (fieldArith K mp) f b e).2 = b ^ e ∧
    (powEven (fieldArith K mp) f b e).2 ≤ e ∧
    (0 < e → e < 2 ^ f → (powEven (fieldArith K mp) f b e).2 % 2 = 1) := by
  intro f
  induction f with
  | zero => intro b e; exact ⟨rfl, le_rfl, fun h0 hlt => absurd hlt (Nat.not_lt.mpr h0)⟩
  | succ f ih =>
    intro b e
    rw [powEven]
    by_cases h : e % 2 = 0
    · obtain ⟨i1, i2, i3⟩ := ih ((fieldArith K mp).mul b b) (e / 2)
      rw [if_pos (beq_iff_eq.mpr h)]
      refine ⟨?_, i2.trans (Nat.div_le_self e 2), fun h0 hlt => i3 (by omega) ((Nat.div_lt_iff_lt_mul Nat.two_pos).mpr hlt)⟩
      rw [pow_halve b e, h, pow_zero, mul_one]; exact i1
    · rw [if_neg (mt beq_iff_eq.mp h)]
      exact ⟨rfl, le_rfl, fun _ _ => (Nat.mod_two_eq_zero_or_one e).resolve_left h⟩

theorem powOdd_spec (mp : K) : ∀ (f : Nat) (b acc : K) (e : Nat), e < 2 ^ f →
    powOdd (fieldArith K mp) f b acc e = acc * (b * b) ^ (e / 2) := by
  intro f
  induction f with
  | zero => intro b acc e he; rw [powOdd, show e / 2 = 0 from Nat.div_eq_of_lt (Nat.lt_succ_of_lt he), pow_zero, mul_one]
  | succ f ih =>
    intro b acc e he
    rw [powOdd]
    by_cases h : e > 1
    · rw [if_pos h]
      show powOdd _ f (b * b) (if e / 2 % 2 == 1 then acc * (b * b) else acc) (e / 2) = _
      rw [ih _ _ _ ((Nat.div_lt_iff_lt_mul Nat.two_pos).mpr he), pow_halve (b * b) (e / 2)]
      by_cases h1 : e / 2 % 2 = 1
      · rw [if_pos (beq_iff_eq.mpr h1), h1, pow_one, mul_assoc, mul_comm (b * b)]
      · rw [if_neg (mt beq_iff_eq.mp h1), (Nat.mod_two_eq_zero_or_one _).resolve_right h1, pow_zero, mul_one]
    · rw [if_neg h, Nat.div_eq_of_lt (Nat.lt_succ_of_le (Nat.le_of_not_lt h)), pow_zero, mul_one]

/-- the hand-written square-and-multiply loop is exponentiation for every `u32` exponent. -/
theorem pow_u32_eq (mp b : K) (e : Nat) (he : e < 2 ^ 32) : powU32 (fieldArith K mp) b e = b ^ e := by
  unfold powU32
  by_cases h : e = 0
  · rw [if_pos (beq_iff_eq.mpr h), h, pow_zero]; rfl
  · rw [if_neg (mt beq_iff_eq.mp h)]
    obtain ⟨i1, i2, i3⟩ := powEven_spec mp 32 b e
    have hodd := i3 (Nat.pos_of_ne_zero h) he
    generalize powEven (fieldArith K mp) 32 b e = r at *
    -- for `r.2 = 1` the second loop would not run either: both branches are `r.1 · (r.1²)^(r.2 / 2)`
    have hr : r.1 * (r.1 * r.1) ^ (r.2 / 2) = b ^ e := by rw [← i1, pow_halve r.1 r.2, hodd, pow_one, mul_comm]
    show (if r.2 == 1 then r.1 else _) = _
    split
    · rename_i h1
      rw [← hr, show r.2 / 2 = 0 by rw [eq_of_beq h1], pow_zero, mul_one]
    · rw [powOdd_spec mp 32 r.1 r.1 r.2 (i2.trans_lt he), hr]

/-- unnormalised weight `r^{|x−n|}` of support point `x` of the truncated discrete Laplace law on `0..2n`, centred at `n` -/
def weight (r : K) (n x : Nat) : K := r ^ (Int.natAbs ((x : Int) - n))

def mass (r : K) (n : Nat) : K := sumRange (2 * n + 1) (weight r n)

theorem weight_above (r : K) (n d : Nat) : weight r n (n + d) = r ^ d := by
  rw [weight, Nat.cast_add, add_sub_cancel_left, Int.natAbs_natCast]

theorem weight_comm (r : K) (n x : Nat) : weight r n x = weight r x n := by
  rw [weight, weight, ← Int.natAbs_neg, neg_sub]

theorem weight_below (r : K) (x d : Nat) : weight r (x + d) x = r ^ d := by
  rw [weight_comm, weight_above]

theorem sumRange_weight_below (r : K) : ∀ k j,
    (1 - r) * sumRange k (weight r (k + j)) = r ^ (j + 1) - r ^ (k + j + 1) := by
  intro k
  induction k with
  | zero => intro j; rw [sumRange, mul_zero, Nat.zero_add, sub_self]
  | succ k ih =>
    intro j
    rw [sumRange, mul_add, Nat.add_right_comm k 1 j, Nat.add_assoc k j 1, ih (j + 1), weight_below,
      pow_succ r (j + 1)]
    ring

theorem sumRange_weight_above (r : K) (n : Nat) : ∀ m,
    (1 - r) * sumRange (n + 1 + m) (weight r n) = 1 + r - r ^ (n + 1) - r ^ (m + 1) := by
  intro m
  induction m with
  | zero =>
    rw [Nat.add_zero, sumRange, mul_add, show (1 - r) * sumRange n (weight r n) = _ from sumRange_weight_below r n 0,
      show weight r n n = _ from weight_above r n 0]
    ring
  | succ m ih =>
    rw [← Nat.add_assoc, sumRange, mul_add, ih, Nat.add_assoc, weight_above, pow_succ r (m + 1), Nat.add_comm 1 m]
    ring

/-- The total mass in division-free form; for `r ≠ 1` it is the reciprocal of the constant `a` of `right_hand_side`
(`mass_eq`). -/
theorem mass_closed_form (r : K) (n : Nat) : (1 - r) * mass r n = 1 + r - 2 * r ^ (n + 1) := by
  rw [mass, Nat.two_mul, Nat.add_right_comm n n 1, sumRange_weight_above, sub_sub, two_mul]

theorem mass_eq (r : K) (n : Nat) (hr : r ≠ 1) : mass r n = (1 + r - 2 * r ^ (n + 1)) / (1 - r) := by
  rw [eq_div_iff (sub_ne_zero.mpr hr.symm), mul_comm, mass_closed_form]

/-- rejection sampling renormalises: any law proportional to the weights on `0..2n` IS `weight / mass`. -/
theorem rejection_renormalises {K : Type} [Field K] [LinearOrder K] (c r : K) (n x : Nat) (hc : c ≠ 0) :
    (c * weight r n x) / sumRange (2 * n + 1) (fun y => c * weight r n y) = weight r n x / mass r n := by
  rw [sumRange_mul_const, mass, mul_div_mul_left _ _ hc]

theorem tailSum_eq (mp r : K) (n bigDelta : Nat) (hn : n + 1 < 2 ^ 32) (hd : bigDelta ≤ n) :
    tailSum (fieldArith K mp) r n bigDelta = sumRange bigDelta (fun j => r ^ (n - bigDelta + 1 + j)) := by
  unfold tailSum
  -- every exponent `a + j`, `a = n − Δ + 1`, `j < Δ`, is a `u32`
  have ha : n - bigDelta + 1 + bigDelta < 2 ^ 32 := by rwa [Nat.add_right_comm, Nat.sub_add_cancel hd]
  generalize n - bigDelta + 1 = a at ha ⊢
  clear hd
  induction bigDelta with
  | zero => rfl
  | succ d ih =>
    have ha' : a + d < 2 ^ 32 := Nat.lt_of_succ_lt ha
    rw [List.range_succ, List.foldl_append, ih ha', List.foldl_cons, List.foldl_nil, sumRange,
      pow_u32_eq mp r _ ha']
    rfl

theorem rhs_closed (mp r : K) (n bigDelta : Nat) (hn : n + 1 < 2 ^ 32) (hd : bigDelta ≤ n) (hr : r ≠ 1) :
    rightHandSide (fieldArith K mp) n bigDelta r = (r ^ (n - bigDelta + 1) - r ^ (n + 1)) / (1 + r - 2 * r ^ (n + 1)) := by
  unfold rightHandSide
  rw [tailSum_eq mp r n bigDelta hn hd, pow_u32_eq mp r _ hn]
  show (1 - r) / (1 + r - 2 * r ^ (n + 1)) * _ = _
  rw [div_mul_eq_mul_div, geom_closed, Nat.add_right_comm, Nat.sub_add_cancel hd]

/-- `right_hand_side(n, Δ, ε)` is the total probability of the `Δ` outermost support points
`0, …, Δ−1` (equivalently `2n−Δ+1, …, 2n`) under the law `Pr[x] = r^{|x−n|} / Σ_y r^{|y−n|}`, `r = e^{-ε}`. -/
theorem rhs_is_tail_mass (mp r : K) (n bigDelta : Nat) (hn : n + 1 < 2 ^ 32) (hd : bigDelta ≤ n) (hr : r ≠ 1) :
    rightHandSide (fieldArith K mp) n bigDelta r = sumRange bigDelta (weight r n) / mass r n := by
  rw [rhs_closed mp r n bigDelta hn hd hr, ← mul_div_mul_left _ (mass r n) (sub_ne_zero.mpr hr.symm), mass_closed_form]
  obtain ⟨j, rfl⟩ := Nat.exists_eq_add_of_le hd
  rw [sumRange_weight_below, Nat.add_sub_cancel_left]

section order
variable [IsStrictOrderedRing K]

theorem rhsDenom_ge (r : K) (n : Nat) (h0 : 0 ≤ r) (h1 : r ≤ 1) : 1 - r ≤ 1 + r - 2 * r ^ (n + 1) := by
  have : r ^ (n + 1) ≤ r := pow_le_of_le_one h0 h1 n.succ_ne_zero
  linarith

theorem rhsDenom_pos (r : K) (n : Nat) (h0 : 0 < r) (h1 : r < 1) : 0 < 1 + r - 2 * r ^ (n + 1) :=
  (sub_pos.mpr h1).trans_le (rhsDenom_ge r n h0.le h1.le)

/-- for `0 < r < 1` the tail mass decreases with the truncation point, so the linear search of
`find_smallest_n` finds THE smallest admissible `n`. -/
theorem rhs_antitone (mp r : K) (n bigDelta : Nat) (hn : n + 2 < 2 ^ 32) (hd : bigDelta ≤ n) (h0 : 0 < r) (h1 : r < 1) :
    rightHandSide (fieldArith K mp) (n + 1) bigDelta r ≤ rightHandSide (fieldArith K mp) n bigDelta r := by
  rw [rhs_closed mp r (n + 1) bigDelta hn (Nat.le_succ_of_le hd) (ne_of_lt h1),
    rhs_closed mp r n bigDelta (Nat.lt_of_succ_lt hn) hd (ne_of_lt h1), Nat.sub_add_comm hd,
    pow_succ r (n - bigDelta + 1), pow_succ r (n + 1), ← sub_mul]
  -- the numerator `N = r^{n−Δ+1} − r^{n+1} ≥ 0` is multiplied by `r ≤ 1`, and the denominator grows
  have hN : 0 ≤ r ^ (n - bigDelta + 1) - r ^ (n + 1) :=
    sub_nonneg.mpr (pow_le_pow_of_le_one h0.le h1.le (Nat.succ_le_succ (Nat.sub_le n bigDelta)))
  have hB : r ^ (n + 1) * r ≤ r ^ (n + 1) := mul_le_of_le_one_right (pow_nonneg h0.le _) h1.le
  exact div_le_div₀ hN (mul_le_of_le_one_right hN h1.le) (rhsDenom_pos r n h0 h1)
    (sub_le_sub_left (mul_le_mul_of_nonneg_left hB zero_le_two) _)

/-- termination of the search over an Archimedean field such as ℝ or ℚ: for `0 < δ` and `0 < r < 1` every truncation
point `n ≥ Δ` that is large enough (`n − Δ + 1 ≥ k`) meets the criterion. -/
theorem tail_vanishes [Archimedean K] (mp r delta : K) (bigDelta : Nat) (h0 : 0 < r) (h1 : r < 1) (hdelta : 0 < delta) :
    ∃ k : Nat, ∀ n, bigDelta ≤ n → n + 1 < 2 ^ 32 → k ≤ n - bigDelta + 1 →
      rightHandSide (fieldArith K mp) n bigDelta r ≤ delta := by
  obtain ⟨k, hk⟩ := exists_pow_lt_of_lt_one (mul_pos hdelta (sub_pos.mpr h1)) h1
  refine ⟨k, fun n hd hn hkn => ?_⟩
  rw [rhs_closed mp r n bigDelta hn hd (ne_of_lt h1), div_le_iff₀ (rhsDenom_pos r n h0 h1)]
  calc r ^ (n - bigDelta + 1) - r ^ (n + 1) ≤ r ^ (n - bigDelta + 1) := sub_le_self _ (pow_nonneg h0.le _)
    _ ≤ r ^ k := pow_le_pow_of_le_one h0.le h1.le hkn
    _ ≤ delta * (1 - r) := hk.le
    _ ≤ delta * (1 + r - 2 * r ^ (n + 1)) := mul_le_mul_of_nonneg_left (rhsDenom_ge r n h0.le h1.le) hdelta.le

theorem oprfRange_accept_iff (mp eps delta : K) (cap sens : Nat) :
    oprfRange (fieldArith K mp) cap eps delta sens = .ok () ↔ (mp ≤ eps ∧ mp ≤ delta ∧ delta ≤ 1 - mp ∧ sens ≤ cap) := by
  simp only [oprfRange_ok_iff, fieldArith, decide_eq_true_eq, decide_eq_false_iff_not, not_lt]

theorem geometric_accept_iff (mp p : K) (hmp : 0 < mp) :
    geometricNew (fieldArith K mp) p = .ok () ↔ (mp ≤ p ∧ p ≤ 1) := by
  simp only [geometricNew_ok_iff, bernoulliOk, fieldArith, Bool.or_eq_true, Bool.and_eq_true, decide_eq_true_eq,
    decide_eq_false_iff_not, not_lt]
  -- given `0 < mp ≤ p`, the condition `0 ≤ p < 1 ∨ p = 1` of `Bernoulli::new` is `p ≤ 1`
  refine and_congr_right fun h => ⟨fun hb => hb.elim (fun hb => hb.2.le) le_of_eq, fun h1 => ?_⟩
  exact h1.lt_or_eq.imp_left fun h1 => ⟨hmp.le.trans h, h1⟩

theorem truncated_accept_iff (mp s p : K) (cap shift : Nat) (hmp : 0 < mp) :
    (∃ d, truncatedNew (fieldArith K mp) cap s shift p = .ok d) ↔ (mp ≤ s ∧ shift ≤ cap ∧ mp ≤ p ∧ p ≤ 1) := by
  simp only [truncatedNew_ok_iff, geometric_accept_iff mp p hmp, exists_and_left, exists_eq, and_true]
  simp only [fieldArith, decide_eq_false_iff_not, not_lt]

theorem noise_accept_iff (mp eps delta succ dims qs l1 l2 linf : K) :
    noiseParamsNew (fieldArith K mp) eps delta succ dims qs l1 l2 linf = .ok () ↔
      (0 < eps ∧ 0 < delta ∧ 0 ≤ succ ∧ succ ≤ 1 ∧ 0 < dims ∧ 0 < qs ∧ 0 < l1 ∧ 0 < l2 ∧ 0 < linf) := by
  simp only [noise_accept_any, fieldArith, decide_eq_true_eq]

/-- F4: the unfixed δ check rejected exactly the non-zero values. -/
theorem noise_delta_unfixed_counterexample (mp delta : K) :
    noiseParamsDeltaCheckUnfixed (fieldArith K mp) delta = true ↔ delta ≠ 0 := by
  simp only [noiseParamsDeltaCheckUnfixed, fieldArith, Bool.not_eq_true', decide_eq_false_iff_not, ne_eq]

theorem noise_range_fixed_eq_unfixed (mp x : K) :
    noiseRangeReject (fieldArith K mp) x = noiseRangeRejectUnfixed (fieldArith K mp) x := by
  simp only [noiseRangeReject, noiseRangeRejectUnfixed, fieldArith, ← not_lt, decide_not]

theorem binomial_eps_iff (mp maxEps eps : K) :
    binomialEpsOk (fieldArith K mp) maxEps eps = true ↔ (0 < eps ∧ eps ≤ maxEps) := by
  simp only [binomialEpsOk, fieldArith, Bool.not_eq_true', Bool.or_eq_false_iff, decide_eq_false_iff_not, not_le,
    not_lt]

end order
end

theorem sq_one_sub_lt_one (p : ℝ) (h0 : 0 < p) (h1 : p ≤ 1) : (1 - p) ^ 2 < 1 :=
  (sq_lt_one_iff₀ (sub_nonneg.mpr h1)).mpr (sub_lt_self 1 h0)

/-- with i.i.d. Bernoulli(`p`) outcomes the two geometric draws `a₁, a₂` have
`Pr[a = k] = p (1−p)^k`; the law of the difference `a₁ − a₂ = d ≥ 0` (symmetric for `−d`) is the series
`Σ_k p(1−p)^k · p(1−p)^{k+d}`, proportional to `(1−p)^{|d|}` with `1 − p = e^{-ε}`. -/
theorem double_geometric_series (p : ℝ) (d : ℕ) (h0 : 0 < p) (h1 : p ≤ 1) :
    HasSum (fun k : ℕ => (p * (1 - p) ^ k) * (p * (1 - p) ^ (k + d))) (p ^ 2 * (1 - p) ^ d / (1 - (1 - p) ^ 2)) := by
  -- the terms are `p² (1−p)^d · ((1−p)²)^k`: a geometric series with ratio `(1−p)²`
  have e1 : (fun k : ℕ => (p * (1 - p) ^ k) * (p * (1 - p) ^ (k + d))) = fun i => p ^ 2 * (1 - p) ^ d * ((1 - p) ^ 2) ^ i := by
    funext k; rw [← pow_mul]; ring
  rw [e1, div_eq_mul_inv]
  exact (hasSum_geometric_of_lt_one (sq_nonneg _) (sq_one_sub_lt_one p h0 h1)).mul_left (p ^ 2 * (1 - p) ^ d)

-- the hypotheses `0 < p ≤ 1` can be met
example : (0 : ℝ) < 1 / 2 ∧ (1 / 2 : ℝ) ≤ 1 := by norm_num

theorem laplaceModulus_eq {w : Nat} (hw : w ≤ 32) : laplaceModulus w = some (2 ^ w) := if_pos hw

theorem symmetricSample_pow2 (w s n : Nat) (hw : w ≤ 32) :
    symmetricSample (2 ^ w) w s n = (s + 2 ^ 32 - n) % 2 ^ w := by
  unfold symmetricSample
  rw [Nat.mod_mod, Nat.mod_mod_of_dvd _ (Nat.pow_dvd_pow 2 hw)]

theorem share_mapping (w s n : Nat) (hw : w ≤ 32) (hn : n ≤ 1000000) :
    (symmetricSample (2 ^ w) w s n + n) % 2 ^ w = s % 2 ^ w ∧ symmetricSample (2 ^ w) w s n < 2 ^ w := by
  rw [symmetricSample_pow2 w s n hw]
  have hpos : 0 < 2 ^ w := Nat.two_pow_pos w
  refine ⟨?_, Nat.mod_lt _ hpos⟩
  obtain ⟨c, hc⟩ := Nat.pow_dvd_pow 2 hw
  -- `10^6` is `MAX_SHIFT`, the largest shift the constructors accept; what is used is `n ≤ 2^32`
  have hn' : n ≤ 2 ^ 32 := hn.trans (by decide)
  rw [Nat.mod_add_mod, Nat.sub_add_cancel (hn'.trans (Nat.le_add_left _ s)), hc, Nat.add_mul_mod_self_left]

/-- noise `−1` (sample `n − 1`) is placed as `2^w − 1`. -/
theorem minus_one_reachable (w n : Nat) (hw : w ≤ 32) (_hw1 : 1 ≤ w) (hn1 : 1 ≤ n) (hn : n ≤ 1000000) :
    symmetricSample (2 ^ w) w (n - 1) n = 2 ^ w - 1 := by
  -- `n − 1 + 2^32 − n = 2^32 − 1`, and `2^32 = 2^w · (c + 1)`
  rw [symmetricSample_pow2 w _ n hw, ← Nat.sub_add_comm hn1, Nat.sub_right_comm, Nat.add_sub_cancel_left]
  obtain ⟨c, hc⟩ := Nat.pow_dvd_pow 2 hw
  have hpos : 0 < 2 ^ w := Nat.two_pow_pos w
  cases c with
  | zero => simp at hc
  | succ c =>
    rw [hc, Nat.mul_succ, Nat.add_sub_assoc hpos, Nat.mul_add_mod, Nat.mod_eq_of_lt (Nat.sub_lt hpos Nat.one_pos)]

/-- F5 (unfixed code, modulus `u32::MAX` at 32 bits): noise `−1` was mapped to `0`. -/
theorem share_mapping_unfixed_counterexample :
    laplaceModulusUnfixed 32 = some (2 ^ 32 - 1) ∧ symmetricSample (2 ^ 32 - 1) 32 13 14 = 0 ∧
    symmetricSample (2 ^ 32) 32 13 14 = 2 ^ 32 - 1 := by decide

/-- each draw is generated by exactly the two helpers other than the excluded one, the excluded helper contributes
the zero share, the three views are consistent and reconstruct (xor of the left components) to the drawn value. -/
theorem pass_shares (modulus ov sample shift : Nat) (e : Nat) (he : e < 3) :
    let v := symmetricSample modulus ov sample shift
    let h0 := passShares modulus ov sample shift e 0
    let h1 := passShares modulus ov sample shift e 1
    let h2 := passShares modulus ov sample shift e 2
    passShares modulus ov sample shift e e = (0, 0) ∧
    h0.2 = h1.1 ∧ h1.2 = h2.1 ∧ h2.2 = h0.1 ∧ (h0.1 ^^^ h1.1 ^^^ h2.1) = v := by
  have : e = 0 ∨ e = 1 ∨ e = 2 := by omega
  rcases this with rfl | rfl | rfl <;> simp [passShares, sampleShares]

open IpaVerif.Circuits IpaVerif.C07 in
/-- one pass: `integer_add(noise, histogram)` on `w`-bit values is addition modulo `2^w`. -/
theorem noisy_bucket_pass (p : Path) (noise hist : List Bool) (h : hist.length = noise.length) :
    val (integerAdd plainAlg p noise hist).1 = (val noise + val hist) % 2 ^ noise.length := by
  rw [integer_add_mod, ← h, Nat.mod_eq_of_lt (val_lt hist)]

/-- the arithmetic modulo `M` that composes three `noisy_bucket_pass` results: `(exact + d₁ + d₂ + d₃) mod M`. -/
theorem noisy_bucket (M exact v1 v2 v3 : Nat) :
    (v3 + (v2 + (v1 + exact) % M) % M) % M = (exact + v1 + v2 + v3) % M := by
  rw [Nat.add_mod_mod, ← Nat.add_assoc, Nat.add_mod_mod]; congr 1; omega

open IpaVerif.Circuits IpaVerif.C07 in
/-- one `apply_laplace_noise_pass` over `B` buckets (`Dp.e2ePass`, the model side of suite `c12_noise_e2e`): whenever the
stream suffices, bucket `i` of the output is `(noiseᵢ + histᵢ) mod 2^w`, `noiseᵢ` the placed value of the `i`-th accepted
sample (`share_mapping`). -/
theorem e2e_pass_value (pInt shift w : Nat) : ∀ (hist script out : List Nat),
    e2ePass pInt shift w (2 ^ w) hist script = some out →
    List.Forall₂ (fun h o => ∃ sample, sample ≤ 2 * shift ∧
      o = (symmetricSample (2 ^ w) w sample shift + h) % 2 ^ w) hist out := by
  intro hist
  induction hist with
  | nil => intro script out h; cases h; exact List.Forall₂.nil
  | cons h hs ih =>
    intro script out hout
    rw [e2ePass] at hout
    split at hout
    · cases hout
    · rename_i sample rest hs'
      obtain ⟨out', hrec, rfl⟩ := Option.map_eq_some_iff.mp hout
      refine List.Forall₂.cons ⟨sample, truncatedSample_le _ _ _ _ _ _ hs', ?_⟩ (ih rest out' hrec)
      rw [noisy_bucket_pass [] _ _ (by rw [bitsOf_length, bitsOf_length]), val_bitsOf, val_bitsOf, bitsOf_length,
        Nat.mod_add_mod, Nat.add_mod_mod]

end IpaVerif.C12
