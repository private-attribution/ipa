import IpaVerif.Props.C03
import IpaVerif.Props.C08Field
import IpaVerif.Props.C03Algebra
import Mathlib.Tactic.NormNum
/-!
# C03 — `ProofBatch::generate` and `BatchToVerify::verify` composed (completeness)

The executable model `IpaVerif.DzkpBatch` (generic in the field operations; the driver runs it with the
`Fp61BitPrime` operations against the real code, suite `c03_batch`) is instantiated here with the operations of a
field (`fieldOps K`) and with `K = ZMod (2^61 − 1)`.

Deterministic soundness for an arbitrary prover is in `Props/C03Sound.lean`.
-/
namespace IpaVerif.C03Batch
open IpaVerif.DzkpBatch IpaVerif.C03Algebra IpaVerif.PrimeField IpaVerif.Generated IpaVerif.Generated.Dzkp

variable {K : Type} [Field K]

/-- the operations of a field, as an `Ops` record: the model instantiated here is the one the driver runs. -/
def fieldOps (K : Type) [Field K] : Ops K :=
  { zero := 0, one := 1, add := (· + ·), sub := (· - ·), mul := (· * ·), inv := (·⁻¹), ofNat := fun n => (n : K) }

@[simp] theorem fo_zero : (fieldOps K).zero = 0 := rfl
@[simp] theorem fo_one : (fieldOps K).one = 1 := rfl
@[simp] theorem fo_add (a b : K) : (fieldOps K).add a b = a + b := rfl
@[simp] theorem fo_sub (a b : K) : (fieldOps K).sub a b = a - b := rfl
@[simp] theorem fo_mul (a b : K) : (fieldOps K).mul a b = a * b := rfl
@[simp] theorem fo_inv (a : K) : (fieldOps K).inv a = a⁻¹ := rfl
@[simp] theorem fo_ofNat (n : Nat) : (fieldOps K).ofNat n = (n : K) := rfl

theorem others4 : others 4 0 = [1, 2, 3] ∧ others 4 1 = [0, 2, 3] ∧ others 4 2 = [0, 1, 3] ∧ others 4 3 = [0, 1, 2] := by
  decide
theorem others7 : others 7 0 = [1, 2, 3, 4, 5, 6] ∧ others 7 1 = [0, 2, 3, 4, 5, 6] ∧ others 7 2 = [0, 1, 3, 4, 5, 6] ∧
    others 7 3 = [0, 1, 2, 4, 5, 6] ∧ others 7 4 = [0, 1, 2, 3, 5, 6] ∧ others 7 5 = [0, 1, 2, 3, 4, 6] ∧
    others 7 6 = [0, 1, 2, 3, 4, 5] := by
  decide

/-- the summands of `interp4`/`interp7`; `batch_invert` is only used as `a⁻¹·b = b/a`. -/
theorem coeff_mul (n i : Nat) (x y : K) : coeff (fieldOps K) n i x * y =
    y * prodDiff (fieldOps K) x (others n i) / prodDiff (fieldOps K) (i : K) (others n i) := by
  rw [coeff, den, fo_mul, fo_inv, fo_ofNat, inv_mul_eq_div, div_mul_eq_mul_div, mul_comm]

theorem eval4_at (x : K) (u : V4 K) : eval4 (fieldOps K) x u = u.at x := by
  simp only [eval4, fo_add, fo_mul, fo_zero, zero_add, coeff_mul, others4, prodDiff, List.foldl_cons, List.foldl_nil,
    fo_sub, fo_one, fo_ofNat, one_mul, Nat.cast_zero, Nat.cast_one, Nat.cast_ofNat, sub_zero, V4.at, interp4]
  -- the numerators agree syntactically; the denominators are closed numerals
  congr <;> norm_num

theorem eval7_interp (x : K) (z : P7 K) :
    eval7 (fieldOps K) x z = interp7 z.p0 z.p1 z.p2 z.p3 z.p4 z.p5 z.p6 x := by
  simp only [eval7, fo_add, fo_mul, fo_zero, zero_add, coeff_mul, others7, prodDiff, List.foldl_cons, List.foldl_nil,
    fo_sub, fo_one, fo_ofNat, one_mul, Nat.cast_zero, Nat.cast_one, Nat.cast_ofNat, sub_zero, interp7]
  congr <;> norm_num

/-- `eval4_at` and `eval7_interp` under the standing hypotheses of the other bridge lemmas (not needed for these two). -/
theorem eval4_eq (h2 : (2 : K) ≠ 0) (h3 : (3 : K) ≠ 0) (x : K) (u : V4 K) :
    eval4 (fieldOps K) x u = u.at x := eval4_at x u

theorem eval7_eq (h2 : (2 : K) ≠ 0) (h3 : (3 : K) ≠ 0) (h5 : (5 : K) ≠ 0) (x : K) (z : P7 K) :
    eval7 (fieldOps K) x z = interp7 z.p0 z.p1 z.p2 z.p3 z.p4 z.p5 z.p6 x := eval7_interp x z


/-- the proof polynomial's seven values. -/
def g7 (cs : List (V4 K × V4 K)) : P7 K := ⟨G cs 0, G cs 1, G cs 2, G cs 3, G cs 4, G cs 5, G cs 6⟩

theorem extend_eq (h2 : (2 : K) ≠ 0) (h3 : (3 : K) ≠ 0) (u : V4 K) :
    extend (fieldOps K) u = ⟨u.at 0, u.at 1, u.at 2, u.at 3, u.at 4, u.at 5, u.at 6⟩ := by
  simp only [extend, eval4_at, fo_ofNat, Nat.cast_ofNat, at_nodes (ne_zero_6 h2 h3)]

theorem computeProof_eq (h2 : (2 : K) ≠ 0) (h3 : (3 : K) ≠ 0) (cs : List (V4 K × V4 K)) :
    computeProof (fieldOps K) cs = g7 cs := by
  have key : ∀ (cs : List (V4 K × V4 K)) (acc : P7 K),
      cs.foldl (fun acc c => macc (fieldOps K) acc (extend (fieldOps K) c.1) (extend (fieldOps K) c.2)) acc =
        ⟨acc.p0 + G cs 0, acc.p1 + G cs 1, acc.p2 + G cs 2, acc.p3 + G cs 3, acc.p4 + G cs 4, acc.p5 + G cs 5,
         acc.p6 + G cs 6⟩ := by
    intro cs
    induction cs with
    | nil => intro acc; simp only [List.foldl_nil, G_nil, add_zero]
    | cons c rest ih =>
      intro acc
      rw [List.foldl_cons, ih, extend_eq h2 h3, extend_eq h2 h3]
      simp only [macc, G_cons, fo_add, fo_mul, add_assoc]
  rw [computeProof, key]
  simp only [zero7, g7, fo_zero, zero_add]

theorem collect_eq (l : List (K × K)) : collect (fieldOps K) l = chunk4p l := by
  fun_induction chunk4p l <;> simp only [collect, fo_zero, *]

theorem nextUV_eq (cs : List (V4 K × V4 K)) (r : K) : nextUV (fieldOps K) cs r = nextLevel cs r := by
  simp only [nextUV, nextLevel, eval4_at]

omit [Field K] in
theorem maskFirst_eq (c : V4 K × V4 K) (mp mq : K) : maskFirst c mp mq = maskChunk c mp mq := rfl

theorem sumShare_g7 (h2 : (2 : K) ≠ 0) (h3 : (3 : K) ≠ 0) (h5 : (5 : K) ≠ 0) (cs : List (V4 K × V4 K)) :
    sumShare (fieldOps K) (g7 cs) = (cs.map fun c => c.1.dot c.2).sum := by
  rw [← (proof_step_complete h2 h3 h5 cs 0).1]
  simp only [sumShare, g7, fo_add, fo_zero, zero_add]

theorem eval7_g7 (h2 : (2 : K) ≠ 0) (h3 : (3 : K) ≠ 0) (h5 : (5 : K) ≠ 0) (cs : List (V4 K × V4 K)) (r : K) :
    eval7 (fieldOps K) r (g7 cs) = G cs r := by
  rw [eval7_interp]; exact (proof_step_complete h2 h3 h5 cs r).2

theorem finalSumShare_g7 (h2 : (2 : K) ≠ 0) (h3 : (3 : K) ≠ 0) (h5 : (5 : K) ≠ 0) (c : V4 K × V4 K)
    (hpad : c.1.d = 0 ∧ c.2.d = 0) (mp mq : K) :
    finalSumShare (fieldOps K) (g7 [maskChunk c mp mq]) = c.1.dot c.2 := by
  rw [← (final_level h2 h3 h5 c hpad mp mq 0).1]
  simp only [finalSumShare, g7, fo_add, fo_zero, zero_add]

theorem eval7_g7_mask (h2 : (2 : K) ≠ 0) (h3 : (3 : K) ≠ 0) (h5 : (5 : K) ≠ 0) (m : V4 K × V4 K) (r : K) :
    eval7 (fieldOps K) r (g7 [m]) = m.1.at r * m.2.at r := by
  rw [eval7_g7 h2 h3 h5, G_cons, G_nil, add_zero]


/-- `recursively_compute_final_check` after the first table, as a recursion over the remaining challenges. -/
def vrec (mask : K) : List K → List K → Option K
  | _, [] => none
  | vals, [rl] => lastStep (fieldOps K) mask vals (some rl)
  | vals, r :: r' :: rs => vrec mask (recurse (fieldOps K) vals r) (r' :: rs)

theorem vrec_cons (mask : K) (vals : List K) (r : K) {rs : List K} (h : rs ≠ []) :
    vrec mask vals (r :: rs) = vrec mask (recurse (fieldOps K) vals r) rs := by
  cases rs with
  | nil => exact absurd rfl h
  | cons r' rs => rw [vrec]

theorem fold_lastStep (mask : K) : ∀ (ctail : List K) (v0 : List K), ctail ≠ [] →
    lastStep (fieldOps K) mask (ctail.dropLast.foldl (recurse (fieldOps K)) v0) ctail.getLast? = vrec mask v0 ctail := by
  intro ctail
  induction ctail with
  | nil => intro v0 h; exact absurd rfl h
  | cons r rest ih =>
    intro v0 _
    cases rest with
    | nil => rfl
    | cons r' rs =>
      rw [vrec, ← ih _ (List.cons_ne_nil r' rs), List.dropLast_cons_cons, List.foldl_cons, List.getLast?_cons_cons]

theorem finalCheck_cons (rows : List (V4 K)) (c0 : K) (ctail : List K) (mask : K) :
    finalCheck (fieldOps K) rows (c0 :: ctail) mask =
      if 1 ≤ ctail.length ∧ ctail.length + 1 ≤ maxProofRecursion then
        vrec mask (rows.map (eval4 (fieldOps K) c0)) ctail
      else none := by
  have hmin : minProofRecursion = 2 := rfl
  unfold finalCheck
  simp only [List.length_cons, hmin]
  by_cases h : 1 ≤ ctail.length ∧ ctail.length + 1 ≤ maxProofRecursion
  · rw [if_neg (by omega), if_pos h, show ctail.length + 1 - 2 = ctail.length - 1 by omega, ← List.dropLast_eq_take]
    exact fold_lastStep mask ctail _ (List.ne_nil_of_length_pos h.1)
  · rw [if_pos (by omega), if_neg h]

theorem finalCheck_eq (rows : List (V4 K)) (c0 : K) (ctail : List K) (mask : K)
    (h1 : 1 ≤ ctail.length) (h2 : ctail.length + 1 ≤ IpaVerif.Generated.Dzkp.maxProofRecursion) :
    finalCheck (fieldOps K) rows (c0 :: ctail) mask = vrec mask (rows.map (eval4 (fieldOps K) c0)) ctail := by
  rw [finalCheck_cons, if_pos ⟨h1, h2⟩]

/-- the tail of `compute_g_differences` (everything after the `sum_of_uv` entry), as a recursion over the
compressed proofs: `pv` is the previous proof interpolated at the previous challenge. -/
def tailD (pv : K) : List (P7 K) → List K → K → List K
  | [z], [c], t => [finalSumShare (fieldOps K) z - pv, t - eval7 (fieldOps K) c z]
  | z :: z' :: zs, c :: cs, t => (sumShare (fieldOps K) z - pv) :: tailD (eval7 (fieldOps K) c z) (z' :: zs) cs t
  | _, _, _ => []

theorem tailD_cons (pv : K) (z : P7 K) {zs : List (P7 K)} (h : zs ≠ []) (c : K) (cs : List K) (t : K) :
    tailD pv (z :: zs) (c :: cs) t = (sumShare (fieldOps K) z - pv) :: tailD (eval7 (fieldOps K) c z) zs cs t := by
  cases zs with
  | nil => exact absurd rfl h
  | cons z' zs => rw [tailD]

theorem zipWith_sub_eq_tailD (t : K) : ∀ (zkps : List (P7 K)) (ctail : List K) (pv : K) (zlast : P7 K),
    zkps.getLast? = some zlast → ctail.length = zkps.length →
    List.zipWith (fun g e => g - e)
      (zkps.dropLast.map (sumShare (fieldOps K)) ++ [finalSumShare (fieldOps K) zlast, t])
      (pv :: List.zipWith (fun c z => eval7 (fieldOps K) c z) ctail zkps) = tailD pv zkps ctail t := by
  intro zkps
  induction zkps with
  | nil => intro ctail pv zlast h; cases h
  | cons z rest ih =>
    intro ctail pv zlast hl hlen
    cases ctail with
    | nil => cases hlen
    | cons c cs =>
      cases rest with
      | nil =>
        obtain rfl := List.length_eq_zero_iff.mp (Nat.succ.inj hlen)
        obtain rfl : z = zlast := Option.some.inj hl
        rfl
      | cons z' zs => exact congrArg (_ :: ·) (ih cs (eval7 (fieldOps K) c z) zlast hl (Nat.succ.inj hlen))

/-- `compute_g_differences` (chains generated from the source) is `(sum(first) − sum_of_uv)` followed by the recursive
tail starting at `first_zkp(r_0)`: every link is pinned, including `sum(zkps[0]) == first_zkp(r_0)`. -/
theorem gDiff_eq (first : P7 K) (zkps : List (P7 K)) (c0 : K) (ctail : List K) (s t : K)
    (hne : zkps ≠ []) (hlen : ctail.length = zkps.length) :
    gDiff (fieldOps K) first zkps (c0 :: ctail) s t =
      some ((sumShare (fieldOps K) first - s) :: tailD (eval7 (fieldOps K) c0 first) zkps ctail t) := by
  have hz := List.getLast?_eq_some_getLast hne
  simp only [gDiff, hz, IpaVerif.Generated.DzkpGDiff.expectedChain, IpaVerif.Generated.DzkpGDiff.gChain,
    IpaVerif.Generated.DzkpGDiff.diffIsGMinusE, List.flatMap_cons, List.flatMap_nil, expItem, gsItem, if_true,
    List.cons_append, List.nil_append, List.append_nil, List.zipWith_cons_cons]
  exact congrArg (fun l => some (_ :: l)) (zipWith_sub_eq_tailD t zkps ctail (eval7 (fieldOps K) c0 first) _ hz hlen)


/-- recombination of the two shares of a proof. -/
def add7 (x y : P7 K) : P7 K :=
  ⟨x.p0 + y.p0, x.p1 + y.p1, x.p2 + y.p2, x.p3 + y.p3, x.p4 + y.p4, x.p5 + y.p5, x.p6 + y.p6⟩

theorem sumShare_add (x y : P7 K) :
    sumShare (fieldOps K) x + sumShare (fieldOps K) y = sumShare (fieldOps K) (add7 x y) := by
  simp only [sumShare, add7, fo_add, fo_zero]; ring
theorem finalSumShare_add (x y : P7 K) :
    finalSumShare (fieldOps K) x + finalSumShare (fieldOps K) y = finalSumShare (fieldOps K) (add7 x y) := by
  simp only [finalSumShare, add7, fo_add, fo_zero]; ring
theorem eval7_add (r : K) (x y : P7 K) :
    eval7 (fieldOps K) r x + eval7 (fieldOps K) r y = eval7 (fieldOps K) r (add7 x y) := by
  simp only [eval7, add7, fo_add, fo_mul, fo_zero]; ring

theorem add7_sub7 (x y : P7 K) : add7 (sub7 (fieldOps K) x y) y = x := by
  cases x; cases y; simp only [add7, sub7, fo_sub, sub_add_cancel]

theorem split_of_add {f : P7 K → K} (hf : ∀ x y, f x + f y = f (add7 x y)) (x y : P7 K) :
    f (sub7 (fieldOps K) x y) + f y = f x := by
  rw [hf, add7_sub7]

/-- the two verifiers' difference vectors add up to the difference vector of the recombined proofs. -/
theorem tailD_add (h2 : (2 : K) ≠ 0) (h3 : (3 : K) ≠ 0) (h5 : (5 : K) ≠ 0) (t : K) :
    ∀ (ls rs : List (P7 K)) (cs : List K) (pvL pvR : K), ls.length = rs.length → cs.length = ls.length →
    List.zipWith (· + ·) (tailD pvL ls cs t) (tailD pvR rs cs 0) = tailD (pvL + pvR) (List.zipWith add7 ls rs) cs t := by
  intro ls
  induction ls with
  | nil =>
    intro rs cs pvL pvR h1 _
    obtain rfl := List.length_eq_zero_iff.mp h1.symm
    rfl
  | cons l ls ih =>
    intro rs cs pvL pvR h1 h2'
    cases rs with
    | nil => cases h1
    | cons r rs =>
      cases cs with
      | nil => cases h2'
      | cons c cs =>
        rw [List.length_cons, List.length_cons, Nat.add_right_cancel_iff] at h1 h2'
        rw [List.zipWith_cons_cons]
        by_cases hls : ls = []
        · subst hls
          obtain rfl := List.length_eq_zero_iff.mp h1.symm
          obtain rfl := List.length_eq_zero_iff.mp h2'
          simp only [tailD, List.zipWith_cons_cons, List.zipWith_nil_right]
          rw [sub_add_sub_comm, finalSumShare_add, sub_add_sub_comm, eval7_add, add_zero]
        · have hrs : rs ≠ [] := List.ne_nil_of_length_pos (h1 ▸ List.length_pos_iff.mpr hls)
          have hzs : List.zipWith add7 ls rs ≠ [] := fun h => (List.zipWith_eq_nil_iff.mp h).elim hls hrs
          rw [tailD_cons _ _ hls, tailD_cons _ _ hrs, tailD_cons _ _ hzs, List.zipWith_cons_cons,
            ih rs cs _ _ h1 h2', eval7_add, sub_add_sub_comm, sumShare_add]

/-- the PRSS shares of the proofs of levels `lvl, lvl+1, …` (what the right verifier holds). -/
def rhosFrom (rho : Nat → P7 K) (lvl : Nat) : Nat → List (P7 K)
  | 0 => []
  | n + 1 => rho lvl :: rhosFrom rho (lvl + 1) n

def AllZero (l : List K) : Prop := ∀ d ∈ l, d = 0

theorem allZero_cons {a : K} {l : List K} : AllZero (a :: l) ↔ a = 0 ∧ AllZero l := List.forall_mem_cons

theorem recurse_fst (r : K) (uv : List (K × K)) :
    recurse (fieldOps K) (uv.map Prod.fst) r = (nextLevel (chunk4p uv) r).map Prod.fst ∧
    recurse (fieldOps K) (uv.map Prod.snd) r = (nextLevel (chunk4p uv) r).map Prod.snd := by
  fun_induction chunk4p uv <;> simp_all [recurse, chunk4, nextLevel, eval4_at]

theorem rows_next (cs : List (V4 K × V4 K)) (r : K) :
    (cs.map Prod.fst).map (eval4 (fieldOps K) r) = (nextLevel cs r).map Prod.fst ∧
    (cs.map Prod.snd).map (eval4 (fieldOps K) r) = (nextLevel cs r).map Prod.snd := by
  simp only [nextLevel, List.map_map, Function.comp_def, eval4_at, and_self]

theorem lastStep_cons (mask x0 : K) (rest : List K) (h : rest.length < 3) (r : K) :
    lastStep (fieldOps K) mask (x0 :: rest) (some r) = some ((⟨mask, rest.getD 0 0, rest.getD 1 0, x0⟩ : V4 K).at r) := by
  rw [lastStep, if_neg (by rw [List.length_cons]; omega), eval4_at]; rfl

theorem small_uv (mp mq : K) (uv : List (K × K)) (h1 : 1 ≤ uv.length) (h4 : uv.length < 4) :
    ∃ c, chunk4p uv = [c] ∧ (c.1.d = 0 ∧ c.2.d = 0) ∧ c.1.dot c.2 = flatDot uv ∧
      (∀ r, lastStep (fieldOps K) mp (uv.map Prod.fst) (some r) = some ((maskChunk c mp mq).1.at r)) ∧
      (∀ r, lastStep (fieldOps K) mq (uv.map Prod.snd) (some r) = some ((maskChunk c mp mq).2.at r)) := by
  have key : ∀ c, chunk4p uv = [c] → c.1.dot c.2 = flatDot uv := fun c hc => by
    rw [← chunk_dot uv, hc, List.map_cons, List.map_nil, List.sum_cons, List.sum_nil, add_zero]
  rcases uv with _ | ⟨p0, _ | ⟨p1, _ | ⟨p2, _ | ⟨p3, rest⟩⟩⟩⟩
  · exact absurd h1 (Nat.not_succ_le_zero 0)
  · exact ⟨_, rfl, ⟨rfl, rfl⟩, key _ rfl, lastStep_cons mp p0.1 [] (by simp), lastStep_cons mq p0.2 [] (by simp)⟩
  · exact ⟨_, rfl, ⟨rfl, rfl⟩, key _ rfl, lastStep_cons mp p0.1 [p1.1] (by simp),
      lastStep_cons mq p0.2 [p1.2] (by simp)⟩
  · exact ⟨_, rfl, ⟨rfl, rfl⟩, key _ rfl, lastStep_cons mp p0.1 [p1.1, p2.1] (by simp),
      lastStep_cons mq p0.2 [p1.2, p2.2] (by simp)⟩
  · exact absurd h4 (Nat.not_lt.mpr (Nat.le_add_left 4 rest.length))

omit [Field K] in
theorem challengesFrom_length (H : Nat → P7 K → P7 K → K) : ∀ (ls rs : List (P7 K)) (lvl : Nat),
    ls.length = rs.length → (challengesFrom H lvl ls rs).length = ls.length := by
  intro ls
  induction ls with
  | nil => intro rs lvl _; cases rs <;> rfl
  | cons l ls ih =>
    intro rs lvl h
    cases rs with
    | nil => cases h
    | cons r rs => rw [challengesFrom, List.length_cons, List.length_cons, ih rs (lvl + 1) (Nat.succ.inj h)]

omit [Field K] in
theorem rhosFrom_length (rho : Nat → P7 K) : ∀ (n lvl : Nat), (rhosFrom rho lvl n).length = n := by
  intro n; induction n with
  | zero => intro lvl; rfl
  | succ n ih => intro lvl; rw [rhosFrom, List.length_cons, ih]

/-- `BatchToVerify::verify` of both verifiers, on the recombined proofs `add7 left right`. -/
theorem verifyDiffs_cons (h2 : (2 : K) ≠ 0) (h3 : (3 : K) ≠ 0) (h5 : (5 : K) ≠ 0) (uL vR : List (V4 K))
    (l0 r0 : P7 K) (ls rs : List (P7 K)) (hlen : ls.length = rs.length) (H : Nat → P7 K → P7 K → K) (mp mq s : K) :
    verifyDiffs (fieldOps K) uL vR (l0 :: ls) (r0 :: rs) H mp mq s =
      if 1 ≤ ls.length ∧ ls.length + 1 ≤ maxProofRecursion then
        (vrec mp (uL.map (eval4 (fieldOps K) (H 0 l0 r0))) (challengesFrom H 1 ls rs)).bind fun p =>
        (vrec mq (vR.map (eval4 (fieldOps K) (H 0 l0 r0))) (challengesFrom H 1 ls rs)).map fun q =>
          (sumShare (fieldOps K) (add7 l0 r0) - s) ::
            tailD (eval7 (fieldOps K) (H 0 l0 r0) (add7 l0 r0)) (List.zipWith add7 ls rs) (challengesFrom H 1 ls rs)
              (p * q)
      else none := by
  have hct : (challengesFrom H 1 ls rs).length = ls.length := challengesFrom_length H ls rs 1 hlen
  have hchs : challenges H (l0 :: ls) (r0 :: rs) = H 0 l0 r0 :: challengesFrom H 1 ls rs := rfl
  simp only [verifyDiffs, hchs, finalCheck_cons, hct]
  by_cases h : 1 ≤ ls.length ∧ ls.length + 1 ≤ maxProofRecursion
  · simp only [if_pos h]
    cases vrec mp (uL.map (eval4 (fieldOps K) (H 0 l0 r0))) (challengesFrom H 1 ls rs) with
    | none => rfl
    | some p =>
      cases vrec mq (vR.map (eval4 (fieldOps K) (H 0 l0 r0))) (challengesFrom H 1 ls rs) with
      | none => rfl
      | some q =>
        simp only [Option.bind_some, Option.map_some]
        rw [gDiff_eq _ _ _ _ _ _ (List.ne_nil_of_length_pos h.1) hct,
          gDiff_eq _ _ _ _ _ _ (List.ne_nil_of_length_pos (hlen ▸ h.1)) (hct.trans hlen)]
        simp only [List.zipWith_cons_cons, fo_add, fo_mul, fo_zero]
        rw [← sumShare_add, ← eval7_add, ← tailD_add h2 h3 h5 _ ls rs _ _ _ hlen hct]
        exact congrArg some (congrArg₂ _ (by rw [sub_zero, sub_add_eq_add_sub]) rfl)
  · simp only [if_neg h]

/-- two shares `a`, `b` of a sum, minus two shares `p`, `q` of the same sum. -/
theorem sub_add_sub_eq_zero {a b p q s : K} (hab : a + b = s) (hpq : p + q = s) : a - p + (b - q) = 0 := by
  rw [sub_add_sub_comm, hab, hpq, sub_self]

theorem quarter_bounds {n : Nat} (h : 4 ≤ n) :
    (n + 3) / 4 < n ∧ 1 ≤ (n + 3) / 4 ∧ ∀ k, n ≤ 3 * 4 ^ (k + 1) → (n + 3) / 4 ≤ 3 * 4 ^ k :=
  ⟨Nat.div_lt_of_lt_mul (by omega), (Nat.le_div_iff_mul_le (by decide)).mpr (by omega), fun k hk =>
    Nat.lt_succ_iff.mp (Nat.div_lt_of_lt_mul (by rw [Nat.pow_succ] at hk; omega))⟩

/-- the loop, honest prover and honest verifiers (any level, any current `uv` vector with at least one
entry): the loop produces `ls` (left shares of its proofs); with the PRSS shares `rs` and the challenges `cs`
both verifiers' final checks succeed (`p`, `q`), and the recombined differences from this level on — for any split
`pvL + pvR` of the previous level's claim `Σ u·v` — have the right length and are all zero. -/
theorem loop_honest (h2 : (2 : K) ≠ 0) (h3 : (3 : K) ≠ 0) (h5 : (5 : K) ≠ 0)
    (rho : Nat → P7 K) (H : Nat → P7 K → P7 K → K) (mp mq : K) :
    ∀ (n : Nat) (uv : List (K × K)) (lvl : Nat), uv.length = n → 1 ≤ n →
    ∃ ls p q, loop (fieldOps K) rho H mp mq lvl uv = some ls ∧ ls ≠ [] ∧
      (∀ k, n ≤ 3 * 4 ^ k → ls.length ≤ k + 1) ∧
      vrec mp (uv.map Prod.fst) (challengesFrom H lvl ls (rhosFrom rho lvl ls.length)) = some p ∧
      vrec mq (uv.map Prod.snd) (challengesFrom H lvl ls (rhosFrom rho lvl ls.length)) = some q ∧
      ∀ pvL pvR, pvL + pvR = flatDot uv →
        (List.zipWith (· + ·) (tailD pvL ls (challengesFrom H lvl ls (rhosFrom rho lvl ls.length)) (p * q))
          (tailD pvR (rhosFrom rho lvl ls.length) (challengesFrom H lvl ls (rhosFrom rho lvl ls.length)) 0)).length
            = ls.length + 1 ∧
        AllZero (List.zipWith (· + ·) (tailD pvL ls (challengesFrom H lvl ls (rhosFrom rho lvl ls.length)) (p * q))
          (tailD pvR (rhosFrom rho lvl ls.length) (challengesFrom H lvl ls (rhosFrom rho lvl ls.length)) 0)) := by
  intro n
  induction n using Nat.strong_induction_on with
  | _ n ih =>
  intro uv lvl hn h1
  by_cases h4 : uv.length < 4
  · obtain ⟨c, hc, hpad, hdot, hp, hq⟩ := small_uv mp mq uv (hn ▸ h1) h4
    obtain ⟨left, hleft⟩ : ∃ left, left = sub7 (fieldOps K) (g7 [maskChunk c mp mq]) (rho lvl) := ⟨_, rfl⟩
    have hloop : loop (fieldOps K) rho H mp mq lvl uv = some [left] := by
      rw [loop, dif_pos h4, collect_eq, hc, hleft]
      simp only [maskFirst_eq, computeProof_eq h2 h3]
    refine ⟨[left], _, _, hloop, List.cons_ne_nil _ _, fun k _ => Nat.le_add_left 1 k, hp (H lvl left (rho lvl)),
      hq (H lvl left (rho lvl)), fun pvL pvR hpv => ⟨rfl, allZero_cons.mpr ⟨?_, allZero_cons.mpr ⟨?_, fun _ h => nomatch h⟩⟩⟩⟩
    · rw [hleft]
      exact sub_add_sub_eq_zero (split_of_add finalSumShare_add (g7 [maskChunk c mp mq]) (rho lvl))
        (by rw [finalSumShare_g7 h2 h3 h5 c hpad, hdot, hpv])
    · subst hleft
      exact sub_add_sub_eq_zero (add_zero _)
        ((split_of_add (eval7_add _) _ _).trans (eval7_g7_mask h2 h3 h5 (maskChunk c mp mq) _))
  · have hn4 : 4 ≤ n := hn ▸ Nat.le_of_not_lt h4
    obtain ⟨hlt, hpos, hquarter⟩ := quarter_bounds hn4
    obtain ⟨left, hleft⟩ : ∃ left, left = sub7 (fieldOps K) (g7 (chunk4p uv)) (rho lvl) := ⟨_, rfl⟩
    obtain ⟨r, hr⟩ : ∃ r, r = H lvl left (rho lvl) := ⟨_, rfl⟩
    have hlen' : (nextLevel (chunk4p uv) r).length = (n + 3) / 4 := by
      rw [nextLevel, List.length_map, ← collect_eq, collect_length, hn]
    obtain ⟨ls', p, q, hloop', hne, hbound, hvp, hvq, hdiff⟩ :=
      ih ((n + 3) / 4) hlt (nextLevel (chunk4p uv) r) (lvl + 1) hlen' hpos
    have hloop : loop (fieldOps K) rho H mp mq lvl uv = some (left :: ls') := by
      rw [loop, dif_neg h4]
      simp only [collect_eq, computeProof_eq h2 h3, nextUV_eq, ← hleft, ← hr, hloop', Option.map_some]
    have hR : rhosFrom rho lvl (left :: ls').length = rho lvl :: rhosFrom rho (lvl + 1) ls'.length := rfl
    have hC : challengesFrom H lvl (left :: ls') (rhosFrom rho lvl (left :: ls').length) =
        r :: challengesFrom H (lvl + 1) ls' (rhosFrom rho (lvl + 1) ls'.length) := by rw [hr]; rfl
    have hpos' : 0 < ls'.length := List.length_pos_iff.mpr hne
    have hRlen := rhosFrom_length rho ls'.length (lvl + 1)
    have hRne : rhosFrom rho (lvl + 1) ls'.length ≠ [] := List.ne_nil_of_length_pos (hRlen.symm ▸ hpos')
    have hCne : challengesFrom H (lvl + 1) ls' (rhosFrom rho (lvl + 1) ls'.length) ≠ [] :=
      List.ne_nil_of_length_pos ((challengesFrom_length H ls' _ (lvl + 1) hRlen.symm).symm ▸ hpos')
    refine ⟨left :: ls', p, q, hloop, List.cons_ne_nil _ _, ?_, ?_, ?_, ?_⟩
    · intro k hk
      cases k with
      | zero => exact absurd (hn4.trans hk) (by decide)
      | succ k' => exact Nat.succ_le_succ (hbound k' (hquarter k' hk))
    · rw [hC, vrec_cons _ _ _ hCne, (recurse_fst r uv).1]; exact hvp
    · rw [hC, vrec_cons _ _ _ hCne, (recurse_fst r uv).2]; exact hvq
    · intro pvL pvR hpv
      obtain ⟨hl, hz⟩ := hdiff (eval7 (fieldOps K) r left) (eval7 (fieldOps K) r (rho lvl))
        (by rw [hleft, split_of_add (eval7_add r), eval7_g7 h2 h3 h5, flatDot_next])
      rw [hC, hR, tailD_cons _ _ hne, tailD_cons _ _ hRne, List.zipWith_cons_cons]
      refine ⟨by rw [List.length_cons, hl, List.length_cons], allZero_cons.mpr ⟨?_, hz⟩⟩
      rw [hleft]
      exact sub_add_sub_eq_zero (split_of_add sumShare_add (g7 (chunk4p uv)) (rho lvl))
        (by rw [sumShare_g7 h2 h3 h5, chunk_dot, hpv])


/-- `max_uv_values = (L − 1)·L^(MAX_PROOF_RECURSION − 2)` with `L = 4`. -/
theorem maxUvValues_eq : maxUvValues = 3 * 4 ^ (maxProofRecursion - 2) ∧ 2 ≤ maxProofRecursion := by decide

/-- Full composition over `ProofBatch::generate`'s `while !did_set_masks` loop and both
verifiers' `BatchToVerify::verify`, any field in which 2, 3, 5 are invertible.

For EVERY batch of `m ≥ 1` first-level chunks (`m ≤ max_uv_values`, the code's own assertion; this includes the
exact powers of the recursion factor — the two-extra-iterations corner), any PRSS shares `rho` of the proofs, any
masks `mp`, `mq`, and ANY challenge function `H` (no condition on the challenges is needed for completeness, in
particular not "outside {0..L−1}"): an honest prover's `generate` succeeds with `2 ≤ #proofs ≤ MAX_PROOF_RECURSION`,
both verifiers' `recursively_compute_final_check` succeed, and the recombined vector
`diff_right + diff_left` of `compute_g_differences` has `#proofs + 1` entries, ALL ZERO — i.e. the `sum_of_uv` link,
every `g` link between consecutive proofs and the final `p(r)·q(r)` link hold, so both verifiers accept.
`s` is the claimed sum; for consistent multiplications it is `m·(−1/2)` (`honest_accept_fp61`). -/
theorem honest_accept (h2 : (2 : K) ≠ 0) (h3 : (3 : K) ≠ 0) (h5 : (5 : K) ≠ 0)
    (ins : List (V4 K × V4 K)) (hm : 1 ≤ ins.length) (hmax : ins.length ≤ IpaVerif.Generated.Dzkp.maxUvValues)
    (rho : Nat → P7 K) (H : Nat → P7 K → P7 K → K) (mp mq s : K)
    (hs : s = (ins.map fun c => c.1.dot c.2).sum) :
    ∃ left diffs, generate (fieldOps K) ins ins rho H mp mq = some left ∧
      2 ≤ left.length ∧ left.length ≤ IpaVerif.Generated.Dzkp.maxProofRecursion ∧
      verifyDiffs (fieldOps K) (ins.map Prod.fst) (ins.map Prod.snd) left (rhosFrom rho 0 left.length) H mp mq s
        = some diffs ∧
      diffs.length = left.length + 1 ∧ AllZero diffs := by
  obtain ⟨left0, hleft0⟩ : ∃ left0, left0 = sub7 (fieldOps K) (g7 ins) (rho 0) := ⟨_, rfl⟩
  obtain ⟨r0, hr0⟩ : ∃ r0, r0 = H 0 left0 (rho 0) := ⟨_, rfl⟩
  have hlen : (nextLevel ins r0).length = ins.length := List.length_map _
  obtain ⟨ls, p, q, hloop, hne, hbound, hvp, hvq, hdiff⟩ :=
    loop_honest h2 h3 h5 rho H mp mq ins.length (nextLevel ins r0) 1 hlen hm
  have hls : ls.length + 1 ≤ maxProofRecursion := by
    have := hbound _ (le_of_le_of_eq hmax maxUvValues_eq.1)
    have := maxUvValues_eq.2
    omega
  have hls1 : 1 ≤ ls.length := List.length_pos_iff.mpr hne
  have hRlen := rhosFrom_length rho ls.length 1
  have hclen := challengesFrom_length H ls (rhosFrom rho 1 ls.length) 1 hRlen.symm
  have hgen : generate (fieldOps K) ins ins rho H mp mq = some (left0 :: ls) := by
    unfold generate
    simp only [computeProof_eq h2 h3, nextUV_eq, ← hleft0, ← hr0, hlen]
    rw [if_neg (Nat.not_lt.mpr hmax), hloop]; rfl
  obtain ⟨hl, hz⟩ := hdiff (eval7 (fieldOps K) r0 left0) (eval7 (fieldOps K) r0 (rho 0))
    (by rw [hleft0, split_of_add (eval7_add r0), eval7_g7 h2 h3 h5, flatDot_next])
  rw [tailD_add h2 h3 h5 _ ls _ _ _ _ hRlen.symm hclen, eval7_add] at hl hz
  refine ⟨left0 :: ls, (sumShare (fieldOps K) (add7 left0 (rho 0)) - s) :: _, hgen, Nat.succ_le_succ hls1,
    hls, ?_, congrArg (· + 1) hl, allZero_cons.mpr ⟨?_, hz⟩⟩
  · rw [show rhosFrom rho 0 (left0 :: ls).length = rho 0 :: rhosFrom rho 1 ls.length from rfl,
      verifyDiffs_cons h2 h3 h5 _ _ _ _ _ _ hRlen.symm, if_pos ⟨hls1, hls⟩, ← hr0,
      (rows_next ins r0).1, (rows_next ins r0).2, hvp, hvq]
    rfl
  · rw [hleft0, add7_sub7, sumShare_g7 h2 h3 h5, hs, sub_self]


instance fp61_fact : Fact (Nat.Prime fp61.p) := ⟨IpaVerif.C08.fp61_prime⟩

/-- the field of `Fp61BitPrime`. -/
abbrev F61 : Type := ZMod fp61.p

theorem f61_small_ne_zero (n : Nat) (h0 : n ≠ 0) (hn : n < fp61.p) : ((n : Nat) : F61) ≠ 0 := fun h =>
  absurd (Nat.le_of_dvd (Nat.pos_of_ne_zero h0) ((ZMod.natCast_eq_zero_iff n fp61.p).mp h)) (Nat.not_le.mpr hn)

theorem f61_two_three_five_ne_zero : (2 : F61) ≠ 0 ∧ (3 : F61) ≠ 0 ∧ (5 : F61) ≠ 0 :=
  ⟨f61_small_ne_zero 2 (by decide) (by decide), f61_small_ne_zero 3 (by decide) (by decide),
    f61_small_ne_zero 5 (by decide) (by decide)⟩

theorem fp61_arithSpec : IpaVerif.C08.ArithSpec fp61 := IpaVerif.C08.prime_fields_arith fp61 (by simp [primeFields])

/-- a table row (four canonical naturals) as an array over `F61`. -/
def castRow (l : List Nat) : V4 F61 := ⟨(l.getD 0 0 : Nat), (l.getD 1 0 : Nat), (l.getD 2 0 : Nat), (l.getD 3 0 : Nat)⟩

theorem cast_foldl_fadd {α : Type} (f : α → Nat) : ∀ (l : List α) (acc : Nat), acc < fp61.p →
    (∀ x ∈ l, f x < fp61.p) →
    l.foldl (fun acc x => fadd acc (f x)) acc < fp61.p ∧
    ((l.foldl (fun acc x => fadd acc (f x)) acc : Nat) : F61) = (acc : F61) + (l.map fun x => ((f x : Nat) : F61)).sum := by
  intro l
  induction l with
  | nil => intro acc h _; exact ⟨h, by rw [List.map_nil, List.sum_nil, add_zero, List.foldl_nil]⟩
  | cons x rest ih =>
    intro acc h hf
    have hx := hf x (List.mem_cons_self ..)
    obtain ⟨h1, h2⟩ := ih (fadd acc (f x)) (IpaVerif.C08.canonical_ops fp61_arithSpec h hx).1
      (fun y hy => hf y (List.mem_cons_of_mem _ hy))
    refine ⟨h1, ?_⟩
    rw [List.foldl_cons, h2, List.map_cons, List.sum_cons, ← add_assoc]
    exact congrArg (· + _) (IpaVerif.C08.toZMod_add fp61_arithSpec h hx)

theorem cast_rowDot (l l' : List Nat) (hl : ∀ x ∈ l, x < fp61.p) (hl' : ∀ x ∈ l', x < fp61.p) :
    ((IpaVerif.C03.rowDot l l' : Nat) : F61) = ((l.zip l').map fun ab => (ab.1 : F61) * (ab.2 : F61)).sum := by
  have hlt : ∀ ab ∈ l.zip l', ab.1 < fp61.p ∧ ab.2 < fp61.p := fun ab h =>
    ⟨hl _ (List.of_mem_zip h).1, hl' _ (List.of_mem_zip h).2⟩
  rw [IpaVerif.C03.rowDot, (cast_foldl_fadd (fun ab : Nat × Nat => fmul ab.1 ab.2) _ 0 (by decide)
    (fun ab h => (IpaVerif.C08.canonical_ops fp61_arithSpec (hlt ab h).1 (hlt ab h).2).2.2.1)).2, Nat.cast_zero, zero_add]
  exact congrArg List.sum (List.map_congr_left fun ab h => IpaVerif.C08.toZMod_mul fp61_arithSpec (hlt ab h).1 (hlt ab h).2)

theorem dot_castRow (l l' : List Nat) (hl : l.length = 4 ∧ ∀ x ∈ l, x < fp61.p)
    (hl' : l'.length = 4 ∧ ∀ x ∈ l', x < fp61.p) :
    (castRow l).dot (castRow l') = ((IpaVerif.C03.rowDot l l' : Nat) : F61) := by
  rw [cast_rowDot l l' hl.2 hl'.2]
  match l, l', hl.1, hl'.1 with
  | [u0, u1, u2, u3], [v0, v1, v2, v3], _, _ =>
    simp only [castRow, V4.dot, List.getD_cons_zero, List.getD_cons_succ, List.zip_cons_cons, List.zip_nil_right,
      List.map_cons, List.map_nil, List.sum_cons, List.sum_nil, add_zero, add_assoc]

theorem table_rows_canonical : ∀ i, i < 8 →
    ((tableU.getD i []).length = 4 ∧ ∀ x ∈ tableU.getD i [], x < fp61.p) ∧
    ((tableV.getD i []).length = 4 ∧ ∀ x ∈ tableV.getD i [], x < fp61.p) := by
  decide

/-- the first-level `(u, v)` chunks of a batch given by its table indices (one chunk per multiplication). -/
def rowsF61 (idx : List (Nat × Nat)) : List (V4 F61 × V4 F61) :=
  idx.map fun ij => (castRow (tableU.getD ij.1 []), castRow (tableV.getD ij.2 []))

theorem dots_rowsF61 (idx : List (Nat × Nat)) (hr : ∀ ij ∈ idx, ij.1 < 8 ∧ ij.2 < 8) :
    ((rowsF61 idx).map fun c => c.1.dot c.2) =
      idx.map fun ij => ((IpaVerif.C03.rowDot (tableU.getD ij.1 []) (tableV.getD ij.2 []) : Nat) : F61) := by
  rw [rowsF61, List.map_map]
  exact List.map_congr_left fun ij h =>
    dot_castRow _ _ (table_rows_canonical ij.1 (hr ij h).1).1 (table_rows_canonical ij.2 (hr ij h).2).2

theorem expectedSum_canonical (m : Nat) (hm : m < fp61.p) : IpaVerif.C03.expectedSum m < fp61.p ∧
    ((IpaVerif.C03.expectedSum m : Nat) : F61) = (m : F61) * ((minusOneHalf : Nat) : F61) := by
  have h1 : truncateFrom fp61 m = m := by
    rw [truncateFrom, IpaVerif.C08.reduce_eq_mod_fp61 _ (Nat.lt_trans hm (by decide)), Nat.mod_eq_of_lt hm]
  rw [IpaVerif.C03.expectedSum, h1]
  exact ⟨(IpaVerif.C08.canonical_ops fp61_arithSpec hm (by decide)).2.2.1, IpaVerif.C08.toZMod_mul fp61_arithSpec hm (by decide)⟩


/-- `honest_accept` for `K = ZMod (2^61 − 1)`: a batch of `m` multiplications (`1 ≤ m ≤ max_uv_values`) given by
its table indices, every one of them consistent (`Σ_k U[i][k]·V[j][k] = −1/2`, which `table_identity` equates with
`e = ab ⊕ cd ⊕ f`), claimed sum `expectedSum m = truncate_from(m)·MINUS_ONE_HALF` exactly as `Batch::validate`
computes it on canonical representatives: the prover's `generate` and both verifiers succeed and every recombined
difference is zero. -/
theorem honest_accept_fp61 (idx : List (Nat × Nat)) (hm : 1 ≤ idx.length) (hmax : idx.length ≤ maxUvValues)
    (hr : ∀ ij ∈ idx, ij.1 < 8 ∧ ij.2 < 8)
    (hc : ∀ ij ∈ idx, IpaVerif.C03.rowDot (tableU.getD ij.1 []) (tableV.getD ij.2 []) = minusOneHalf)
    (rho : Nat → P7 F61) (H : Nat → P7 F61 → P7 F61 → F61) (mp mq : F61) :
    ∃ left diffs, generate (fieldOps F61) (rowsF61 idx) (rowsF61 idx) rho H mp mq = some left ∧
      2 ≤ left.length ∧ left.length ≤ maxProofRecursion ∧
      verifyDiffs (fieldOps F61) ((rowsF61 idx).map Prod.fst) ((rowsF61 idx).map Prod.snd) left
        (rhosFrom rho 0 left.length) H mp mq ((IpaVerif.C03.expectedSum idx.length : Nat) : F61) = some diffs ∧
      diffs.length = left.length + 1 ∧ AllZero diffs := by
  have hp : idx.length < fp61.p := Nat.lt_of_le_of_lt hmax (by decide)
  have hlen : (rowsF61 idx).length = idx.length := List.length_map _
  refine honest_accept f61_two_three_five_ne_zero.1 f61_two_three_five_ne_zero.2.1 f61_two_three_five_ne_zero.2.2 (rowsF61 idx) (hlen ▸ hm) (hlen ▸ hmax) rho H mp mq _ ?_
  rw [(expectedSum_canonical _ hp).2, dots_rowsF61 idx hr,
    List.map_congr_left (g := fun _ => ((minusOneHalf : Nat) : F61)) fun ij h => by rw [hc ij h],
    List.map_const', List.sum_replicate, nsmul_eq_mul]

/-- non-vacuity: the all-zero padding gate (index (0,0)) and a consistent non-trivial gate satisfy the hypotheses;
an inconsistent pair of indices does not. -/
example : (∀ ij ∈ [(0, 0), (3, 3)], ij.1 < 8 ∧ ij.2 < 8) ∧
    (∀ ij ∈ [((0 : Nat), (0 : Nat)), (3, 3)], IpaVerif.C03.rowDot (tableU.getD ij.1 []) (tableV.getD ij.2 []) = minusOneHalf) ∧
    IpaVerif.C03.rowDot (tableU.getD 4 []) (tableV.getD 0 []) ≠ minusOneHalf := by decide

/-- The driver's operations refine the field operations: on canonical representatives every operation of
`natOps` (the `Fp61BitPrime` model of C08: Mersenne reduction, extended-Euclid inversion, `truncate_from`) returns a
canonical representative of the result of the corresponding operation of `fieldOps (ZMod p)`. The statement
covers the seven operations only; lifting it to the functions of `IpaVerif.DzkpBatch`, which are built from them, is not
proved. `n < 2^64` is the domain of `truncate_from` (`u64`/`usize`). The driver's output is compared with the real
code by `c03_batch`. -/
theorem natOps_refines_fieldOps (a b : Nat) (ha : a < fp61.p) (hb : b < fp61.p) :
    (natOps.zero < fp61.p ∧ ((natOps.zero : Nat) : F61) = (fieldOps F61).zero) ∧
    (natOps.one < fp61.p ∧ ((natOps.one : Nat) : F61) = (fieldOps F61).one) ∧
    (natOps.add a b < fp61.p ∧ ((natOps.add a b : Nat) : F61) = (fieldOps F61).add a b) ∧
    (natOps.sub a b < fp61.p ∧ ((natOps.sub a b : Nat) : F61) = (fieldOps F61).sub a b) ∧
    (natOps.mul a b < fp61.p ∧ ((natOps.mul a b : Nat) : F61) = (fieldOps F61).mul a b) ∧
    (a ≠ 0 → natOps.inv a < fp61.p ∧ ((natOps.inv a : Nat) : F61) = (fieldOps F61).inv a) ∧
    (∀ n : Nat, n < 2 ^ 64 → natOps.ofNat n < fp61.p ∧ ((natOps.ofNat n : Nat) : F61) = (fieldOps F61).ofNat n) := by
  have hc := IpaVerif.C08.canonical_ops fp61_arithSpec ha hb
  refine ⟨⟨by decide, Nat.cast_zero⟩, ⟨by decide, Nat.cast_one⟩,
    ⟨hc.1, IpaVerif.C08.toZMod_add fp61_arithSpec ha hb⟩, ⟨hc.2.1, IpaVerif.C08.toZMod_sub fp61_arithSpec ha hb⟩,
    ⟨hc.2.2.1, IpaVerif.C08.toZMod_mul fp61_arithSpec ha hb⟩, ?_, ?_⟩
  · intro ha0
    obtain ⟨i, hi, hinv, hmul, _⟩ := IpaVerif.C08.invert_correct fp61 (by simp [primeFields]) ha0 ha
    rw [show natOps.inv a = i from congrArg (·.getD 0) hinv]
    refine ⟨hi, eq_inv_of_mul_eq_one_right ?_⟩
    rw [← IpaVerif.C08.toZMod_mul fp61_arithSpec ha hi, hmul, Nat.cast_one]
  · intro n hn
    have h1 : natOps.ofNat n = n % fp61.p := IpaVerif.C08.reduce_eq_mod_fp61 _ (Nat.lt_trans hn (by decide))
    rw [h1]
    exact ⟨Nat.mod_lt _ (by decide), ZMod.natCast_mod n fp61.p⟩


end IpaVerif.C03Batch
