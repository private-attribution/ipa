import Mathlib.Tactic.Ring
import Mathlib.Data.Fintype.Card
import Mathlib.Data.Fintype.Prod
import Mathlib.Algebra.Field.Basic
/-!
# C04 — counting bound for a single attacked gate

Over any finite field `F` with `q` elements: fix the adversary's errors `(δ, δ′) ≠ (0, 0)` at one recorded gate (and
any constant `c`: the contribution of later gates that consume the attacked wire enters `T` as
`(α + c)·(δ′ − r·δ)` with `c` independent of the attacked gate's `α`, of `r` and of `ρ`).  By
`single_attack_accept_iff` (`Props/C04Down.lean`; `single_gate_attack_T` for `c = 0`) the run is accepted iff `ρ·((α + c)·(δ′ − r·δ)) = 0`.
Among the `q³` equally likely triples `(r, α, ρ)` at most `3q² − 3q + 1` are accepting: probability `≤ 3/q`.
-/
namespace IpaVerif.C04

theorem cube_diff (q : Nat) (hq : 0 < q) : q * (q * q) - (q - 1) * ((q - 1) * (q - 1)) = 3 * q ^ 2 - 3 * q + 1 := by
  obtain ⟨n, rfl⟩ : ∃ n, q = n + 1 := ⟨q - 1, by omega⟩
  have h1 : (n + 1) * ((n + 1) * (n + 1)) - (n + 1 - 1) * ((n + 1 - 1) * (n + 1 - 1)) = 3 * n ^ 2 + 3 * n + 1 := by
    simp only [Nat.add_sub_cancel]
    exact Nat.sub_eq_of_eq_add (by ring)
  have h2 : 3 * (n + 1) ^ 2 - 3 * (n + 1) = 3 * n ^ 2 + 3 * n := Nat.sub_eq_of_eq_add (by ring)
  rw [h1, h2]

theorem single_attack_bad_set_card {F : Type} [Field F] [Fintype F] [DecidableEq F] (δ δ' c : F)
    (h : δ ≠ 0 ∨ δ' ≠ 0) :
    (Finset.univ.filter (fun p : F × F × F => p.2.2 * ((p.2.1 + c) * (δ' - p.1 * δ)) = 0)).card
      ≤ 3 * Fintype.card F ^ 2 - 3 * Fintype.card F + 1 := by
  -- outside `{r = δ′/δ} ∪ {α = −c} ∪ {ρ = 0}` all three factors are non-zero
  let S : Finset (F × F × F) := (Finset.univ.erase (δ' / δ)) ×ˢ ((Finset.univ.erase (-c)) ×ˢ (Finset.univ.erase 0))
  have hsub : Finset.univ.filter (fun p : F × F × F => p.2.2 * ((p.2.1 + c) * (δ' - p.1 * δ)) = 0) ⊆ Sᶜ := by
    intro p hp
    rw [Finset.mem_compl]
    intro hS
    simp only [S, Finset.mem_product, Finset.mem_erase, Finset.mem_univ, and_true] at hS
    obtain ⟨hr, hα, hρ⟩ := hS
    refine mul_ne_zero hρ (mul_ne_zero (fun h1 => hα (eq_neg_of_add_eq_zero_left h1)) fun h1 => ?_)
      (Finset.mem_filter.mp hp).2
    by_cases hδ : δ = 0
    · rw [hδ, mul_zero, sub_zero] at h1
      exact h.elim (fun h => h hδ) (fun h => h h1)
    · exact hr ((eq_div_iff hδ).mpr (sub_eq_zero.mp h1).symm)
  calc _ ≤ Sᶜ.card := Finset.card_le_card hsub
    _ = Fintype.card F * (Fintype.card F * Fintype.card F)
          - (Fintype.card F - 1) * ((Fintype.card F - 1) * (Fintype.card F - 1)) := by
        simp only [S, Finset.card_compl, Fintype.card_prod, Finset.card_product,
          Finset.card_erase_of_mem (Finset.mem_univ _), Finset.card_univ]
    _ = _ := cube_diff _ Fintype.card_pos

/-- non-vacuity of the hypothesis -/
example {F : Type} [Field F] : (1 : F) ≠ 0 ∨ (0 : F) ≠ 0 := Or.inl one_ne_zero

/-- acceptance probability `≤ 3/q`: `|bad|·q ≤ 3·q³`. -/
theorem single_attack_prob_le {F : Type} [Field F] [Fintype F] [DecidableEq F] (δ δ' c : F)
    (h : δ ≠ 0 ∨ δ' ≠ 0) :
    (Finset.univ.filter (fun p : F × F × F => p.2.2 * ((p.2.1 + c) * (δ' - p.1 * δ)) = 0)).card * Fintype.card F
      ≤ 3 * Fintype.card (F × F × F) := by
  have hq : 0 < Fintype.card F := Fintype.card_pos
  have hm : 0 < Fintype.card F ^ 2 := Nat.pow_pos hq
  calc _ ≤ (3 * Fintype.card F ^ 2 - 3 * Fintype.card F + 1) * Fintype.card F :=
        Nat.mul_le_mul_right _ (single_attack_bad_set_card δ δ' c h)
    _ ≤ 3 * Fintype.card F ^ 2 * Fintype.card F := Nat.mul_le_mul_right _ (by omega)
    _ = _ := by rw [Fintype.card_prod, Fintype.card_prod]; ring

end IpaVerif.C04
