import IpaVerif.Props.C04Down
import IpaVerif.Props.C04Count
/-!
# C04 — batches of one validator: a fresh key per batch, opened by that batch's validation

`Model/Mac.lean`, `runBatches`: the batches of one `BatchValidator` run in order; batch `b` computes under the key
`prss (keyIndex b)` — `Malicious::new(ctx, b)` draws `r` at the PRSS index `r_share_record(b, 3) = 3b + 2`
(`keyPerBatch`, re-read from the sources) — and its validation OPENS that key (`validateOpensKey`).  What the
deviating helper does in batch `b` (`adv b opened`) may depend on every key opened before.
-/
namespace IpaVerif.C04
open IpaVerif.Sharing IpaVerif.Mac IpaVerif.Generated.Mac

/-- distinct batches draw their keys at distinct PRSS indices, which are also distinct from every `u`/`w` zero-share
index. -/
theorem batch_key_fresh (b b' : Nat) :
    keyIndex b = rShareRecord b totalCallsToPrss ∧
    (b ≠ b' → keyIndex b ≠ keyIndex b') ∧
    (∀ o, keyIndex b ≠ uRecord o totalCallsToPrss ∧ keyIndex b ≠ wRecord o totalCallsToPrss) := by
  simp only [keyIndex, keyPerBatch, if_true, rShareRecord, uRecord, wRecord, totalCallsToPrss, rShareRecordAdd,
    uRecordAdd, wRecordAdd]
  refine ⟨trivial, fun h => by omega, fun o => ⟨by omega, by omega⟩⟩

section general
variable {F : Type} [DecidableEq F]

theorem runBatchesWith_congr (A : Alg F) (keyIdx : Nat → Nat) (prss prss' : Nat → World F)
    (adv adv' : Nat → List F → BatchIn F) (n : Nat)
    (hp : ∀ m, m < n → prss (keyIdx m) = prss' (keyIdx m)) (ha : ∀ m, m < n → ∀ o, adv m o = adv' m o) :
    runBatchesWith A keyIdx prss adv n = runBatchesWith A keyIdx prss' adv' n := by
  induction n with
  | zero => rfl
  | succ n ih =>
    have ih' := ih (fun m hm => hp m (by omega)) (fun m hm => ha m (by omega))
    simp only [runBatchesWith, ih', hp n (by omega), ha n (by omega)]

/-- after `n` batches the opened keys are exactly `r_0, …, r_{n−1}`. -/
theorem validation_opens_key (A : Alg F) (keyIdx : Nat → Nat) (prss : Nat → World F)
    (adv : Nat → List F → BatchIn F) (n : Nat) :
    (runBatchesWith A keyIdx prss adv n).2 = (List.range n).map (fun b => reconstruct A (prss (keyIdx b))) ∧
    (runBatchesWith A keyIdx prss adv n).1.length = n := by
  induction n with
  | zero => exact ⟨rfl, rfl⟩
  | succ n ih =>
    simp only [runBatchesWith, validateOpensKey, if_true, ih.1, ih.2, List.range_succ, List.map_append, List.map_cons,
      List.map_nil, List.length_append, List.length_cons, List.length_nil, and_self]

/-- everything that happens before batch `b` (outcomes, opened keys — hence the adversary's choice for batch `b`) is
the same for any two PRSS streams that differ only at `keyIndex b`. -/
theorem adversary_view_independent_of_key (A : Alg F) (prss prss' : Nat → World F)
    (adv : Nat → List F → BatchIn F) (b : Nat) (h : ∀ i, i ≠ keyIndex b → prss i = prss' i) :
    runBatches A prss adv b = runBatches A prss' adv b ∧
    adv b (runBatches A prss adv b).2 = adv b (runBatches A prss' adv b).2 := by
  have : runBatches A prss adv b = runBatches A prss' adv b :=
    runBatchesWith_congr A keyIndex prss prss' adv adv b
      (fun m hm => h _ ((batch_key_fresh m b).2.1 (by omega))) (fun _ _ _ => rfl)
  exact ⟨this, by rw [this]⟩

def lastOk (o : List (BatchOut F) × List F) : Option Bool := o.1.getLast?.map (·.ok)

theorem runBatchesWith_last (A : Alg F) (keyIdx : Nat → Nat) (prss : Nat → World F) (adv : Nat → List F → BatchIn F)
    (n : Nat) (bi : BatchIn F) (hbi : adv n (runBatchesWith A keyIdx prss adv n).2 = bi) :
    (runBatchesWith A keyIdx prss adv (n + 1)).1.getLast? =
      some ⟨(run A (prss (keyIdx n)) bi.gates ⟨[], initAcc A bi.mu bi.mw⟩).wires,
        validateE A (prss (keyIdx n)) (run A (prss (keyIdx n)) bi.gates ⟨[], initAcc A bi.mu bi.mw⟩).acc bi.ve bi.czρ
          bi.czMask⟩ := by
  rw [runBatchesWith, hbi, List.getLast?_append, List.getLast?_singleton]; rfl

end general

variable {R : Type} [CommRing R]

/-- batch `b` of the attack: honest gates `gs₀`, one multiplication with errors `e` (value part) and `e'` (MAC part),
honest gates `gs₁`; no error on the validation messages. -/
def attackedBatch (mu mw : Masks R) (gs₀ gs₁ : List (Gate R)) (i j : Nat) (ρ ρ' czρ : Masks R) (e e' : Err R)
    (α czMask : World R) : BatchIn R :=
  ⟨mu, mw, gs₀ ++ Gate.mul i j ρ ρ' α e e' :: gs₁, noValErr (ringAlg R), czρ, czMask⟩

/-- the errors on the attacked multiplication of batch `b` are chosen from the keys opened
by batches `0 … b−1` (`errs`): accepted iff `ρ̂·((α̂ + c)·(δ′ − r̂_b·δ)) = 0`, `r̂_b` the key of batch `b`. -/
theorem adaptive_accept_iff [DecidableEq R] (prss : Nat → World R) (adv : Nat → List R → BatchIn R) (b : Nat)
    (hkey : Consistent (prss (keyIndex b)))
    (mu mw : Masks R) (gs₀ gs₁ : List (Gate R)) (hok0 : ∀ g ∈ gs₀, GateOk g) (hok1 : ∀ g ∈ gs₁, GateOk g)
    (h0 : ∀ g ∈ gs₀, GateHonest g) (h1 : ∀ g ∈ gs₁, GateHonest g) (i j : Nat) (ρ ρ' czρ : Masks R)
    (α czMask : World R) (hα : Consistent α) (hcz : Consistent czMask) (errs : List R → Err R × Err R)
    (hadv : ∀ opened, adv b opened
      = attackedBatch mu mw gs₀ gs₁ i j ρ ρ' czρ (errs opened).1 (errs opened).2 α czMask) :
    let opened := (runBatches (ringAlg R) prss adv b).2
    let e := (errs opened).1
    let e' := (errs opened).2
    let c := kterms gs₁ (kInit gs₀ ++ [((plain gs₀ []).getD i 0 * (plain gs₀ []).getD j 0 + errSum e, 1)])
    lastOk (runBatches (ringAlg R) prss adv (b + 1)) = some true ↔
      rec czMask * ((rec α + c) * (errSum e' - rec (prss (keyIndex b)) * errSum e)) = 0 := by
  intro opened e e' c
  refine Iff.trans ?_ (single_attack_accept_iff (prss (keyIndex b)) hkey mu mw gs₀ gs₁ hok0 hok1 h0 h1 i j ρ ρ' α hα
    e e' czρ czMask hcz)
  rw [lastOk, runBatches, runBatchesWith_last _ _ _ _ b _ (hadv opened), Option.map_some, Option.some.injEq]
  rfl

section counting
variable {F : Type} [Field F] [Fintype F] [DecidableEq F]

/-- finite field `F`; batches `0 … b−1` arbitrary (`adv`); in batch `b` the deviating
helper attacks one multiplication with errors `errs opened` that are an ARBITRARY function of the keys opened so far.
Let the key of batch `b`, the random coefficient of the attacked gate and the check-zero mask range over `F`
(`share v _ _` with any fixed random shares): if the chosen errors are not both zero, at most `3|F|² − 3|F| + 1` of the
`|F|³` triples make batch `b` accept. -/
theorem adaptive_attack_detected (prss : Nat → World F) (adv : Nat → List F → BatchIn F) (b : Nat)
    (mu mw : Masks F) (gs₀ gs₁ : List (Gate F)) (hok0 : ∀ g ∈ gs₀, GateOk g) (hok1 : ∀ g ∈ gs₁, GateOk g)
    (h0 : ∀ g ∈ gs₀, GateHonest g) (h1 : ∀ g ∈ gs₁, GateHonest g) (i j : Nat) (ρ ρ' czρ : Masks F)
    (errs : List F → Err F × Err F) (s1 s2 a1 a2 z1 z2 : F) :
    let prssWith (rv : F) : Nat → World F := fun k => if k = keyIndex b then share (ringAlg F) rv s1 s2 else prss k
    let advWith (αv ρv : F) : Nat → List F → BatchIn F := fun n opened =>
      if n = b then attackedBatch mu mw gs₀ gs₁ i j ρ ρ' czρ (errs opened).1 (errs opened).2
        (share (ringAlg F) αv a1 a2) (share (ringAlg F) ρv z1 z2)
      else adv n opened
    let opened := (runBatches (ringAlg F) prss adv b).2
    (errSum (errs opened).1 ≠ 0 ∨ errSum (errs opened).2 ≠ 0) →
    (Finset.univ.filter (fun p : F × F × F =>
        lastOk (runBatches (ringAlg F) (prssWith p.1) (advWith p.2.1 p.2.2) (b + 1)) = some true)).card
      ≤ 3 * Fintype.card F ^ 2 - 3 * Fintype.card F + 1 := by
  intro prssWith advWith opened hne
  -- what happened before batch `b` does not depend on `(r_b, α, ρ)`
  have hpre : ∀ p : F × F × F,
      (runBatches (ringAlg F) (prssWith p.1) (advWith p.2.1 p.2.2) b).2 = opened := fun p =>
    congrArg Prod.snd (runBatchesWith_congr (ringAlg F) keyIndex (prssWith p.1) prss (advWith p.2.1 p.2.2) adv b
      (fun m hm => if_neg ((batch_key_fresh m b).2.1 (Nat.ne_of_lt hm))) (fun m hm o => if_neg (Nat.ne_of_lt hm)))
  -- so batch `b` is the attack of `adaptive_accept_iff` with the errors `errs opened`
  have hiff : ∀ p : F × F × F,
      lastOk (runBatches (ringAlg F) (prssWith p.1) (advWith p.2.1 p.2.2) (b + 1)) = some true ↔
        p.2.2 * ((p.2.1 + kterms gs₁ (kInit gs₀ ++
            [((plain gs₀ []).getD i 0 * (plain gs₀ []).getD j 0 + errSum (errs opened).1, 1)])) *
          (errSum (errs opened).2 - p.1 * errSum (errs opened).1)) = 0 := by
    intro p
    have hk : prssWith p.1 (keyIndex b) = share (ringAlg F) p.1 s1 s2 := if_pos rfl
    have := adaptive_accept_iff (prssWith p.1) (advWith p.2.1 p.2.2) b (hk ▸ share_consistent _ _ _ _)
      mu mw gs₀ gs₁ hok0 hok1 h0 h1 i j ρ ρ' czρ (share (ringAlg F) p.2.1 a1 a2) (share (ringAlg F) p.2.2 z1 z2)
      (share_consistent _ _ _ _) (share_consistent _ _ _ _) errs (fun o => if_pos rfl)
    simpa only [hpre p, hk, rec_share] using this
  rw [Finset.filter_congr fun p _ => hiff p]
  exact single_attack_bad_set_card _ _ _ hne

end counting

/-- non-vacuity of `adaptive_attack_detected` / `adaptive_accept_iff`: an adversary whose errors really depend on the
opened key (`δ = d`, `δ′ = r₀·d` — the attack of `fresh_key_per_batch_needed`), on a circuit satisfying the
hypotheses. -/
example (x y r1 r2 t1 t2 a1 a2 a3 k1 k2 k3 d : R) :
    let X := share (ringAlg R) x r1 r2
    let Y := share (ringAlg R) y t1 t2
    let α := share (ringAlg R) a1 a2 a3
    let ρ : Masks R := ⟨k1, k2, k3⟩
    let z := noErr (ringAlg R)
    let gs₀ : List (Gate R) := [.upgrade X ρ α z, .upgrade Y ρ α z]
    let errs : List R → Err R × Err R := fun opened => (⟨d, 0, 0⟩, ⟨opened.headD 0 * d, 0, 0⟩)
    (∀ g ∈ gs₀, GateOk g) ∧ (∀ g ∈ gs₀, GateHonest g) ∧ errSum (errs [7]).1 = d ∧ errSum (errs [7]).2 = 7 * d := by
  intro X Y α ρ z gs₀ errs
  have hc : ∀ a b c : R, Consistent (share (ringAlg R) a b c) := share_consistent _
  have hz : errSum z = 0 := errSum_noErr
  exact ⟨List.forall_mem_cons.mpr ⟨⟨hc _ _ _, hc _ _ _⟩, List.forall_mem_singleton.mpr ⟨hc _ _ _, hc _ _ _⟩⟩,
    List.forall_mem_cons.mpr ⟨hz, List.forall_mem_singleton.mpr hz⟩, errSum_first d, errSum_first _⟩

/-- the model with ONE key for all batches (`keyIdx = fun _ => k₀`: what
`keyPerBatch = false` would mean).  Batch 0 is arbitrary.  In batch 1 (inputs `x`, `y` upgraded honestly, then their
product) the deviating helper adds `d` to its message of `x·y` and `r₀·d` to its message of `rx·y`, `r₀` = the key it
saw opened by batch 0.  Then, for EVERY random coefficient, mask and check-zero value: batch 1 is accepted and the
product wire is a consistent sharing of `x·y + d`. -/
theorem fresh_key_per_batch_needed [DecidableEq R] (k₀ : Nat) (prss : Nat → World R) (hk : Consistent (prss k₀))
    (batch0 : List R → BatchIn R) (mu mw ρx ρy ρ ρ' czρ : Masks R) (X Y αx αy α czMask : World R)
    (hX : Consistent X) (hY : Consistent Y) (hαx : Consistent αx) (hαy : Consistent αy) (hα : Consistent α)
    (hcz : Consistent czMask) (d : R) :
    let z := noErr (ringAlg R)
    let adv : Nat → List R → BatchIn R := fun n opened =>
      if n = 0 then batch0 opened
      else ⟨mu, mw, [.upgrade X ρx αx z, .upgrade Y ρy αy z,
              .mul 0 1 ρ ρ' α ⟨d, 0, 0⟩ ⟨opened.headD 0 * d, 0, 0⟩], noValErr (ringAlg R), czρ, czMask⟩
    let out := runBatchesWith (ringAlg R) (fun _ => k₀) prss adv 2
    lastOk out = some true ∧
    (out.1.getLast?.map (fun o => (o.wires.map (fun m => rec m.x)).getD 2 0)) = some (rec X * rec Y + d) ∧
    (∀ o ∈ out.1.getLast?, ∀ m ∈ o.wires, MConsistent m) := by
  intro z adv out
  let gates : List (Gate R) :=
    [.upgrade X ρx αx z, .upgrade Y ρy αy z, .mul 0 1 ρ ρ' α ⟨d, 0, 0⟩ ⟨rec (prss k₀) * d, 0, 0⟩]
  -- the key opened by batch 0 is the key of batch 1
  have hb1 : adv 1 (runBatchesWith (ringAlg R) (fun _ => k₀) prss adv 1).2
      = ⟨mu, mw, gates, noValErr (ringAlg R), czρ, czMask⟩ := by
    rw [(validation_opens_key _ _ _ _ 1).1]; rfl
  have hlast := runBatchesWith_last (ringAlg R) (fun _ => k₀) prss adv 1 _ hb1
  -- batch 1: the two errors cancel in the discrepancy of the product wire, `r̂·d − r̂·d = 0`
  have hok : ∀ g ∈ gates, GateOk g :=
    List.forall_mem_cons.mpr ⟨⟨hX, hαx⟩, List.forall_mem_cons.mpr ⟨⟨hY, hαy⟩, List.forall_mem_singleton.mpr hα⟩⟩
  have hrel : Rel (rec (prss k₀)) (run (ringAlg R) (prss k₀) gates ⟨[], initAcc (ringAlg R) mu mw⟩)
      ([⟨rec X, 0⟩, ⟨rec Y, 0⟩, ⟨rec X * rec Y + d, 0⟩], 0) := by
    have := run_rel_init hk mu mw hok
    simpa only [gates, wiresAfter, macTerms, pstep, pget, z, errSum_noErr, errSum_first, List.nil_append, List.cons_append,
      List.getD_cons_zero, List.getD_cons_succ, termSum_cons, termSum_nil, zero_mul, zero_add, sub_self, mul_zero,
      add_zero] using this
  obtain ⟨hc, hmap, hT⟩ := hrel
  refine ⟨?_, ?_, ?_⟩
  · rw [lastOk, hlast]
    exact congrArg some (validate_honest hT hcz).2
  · rw [hlast]
    have := congrArg (fun l => (l.map PW.val).getD 2 0) hmap
    rw [List.map_map] at this
    exact congrArg some this
  · intro o ho
    rw [hlast] at ho
    cases ho
    exact hc

end IpaVerif.C04
