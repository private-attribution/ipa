import IpaVerif.Model.Prss
import IpaVerif.Generated.Dzkp
/-!
# C06 — shared randomness is pairwise identical, step-separated and never reused

Core Lean only. Cryptographic primitives (X25519, HKDF, AES) are parameters; what is needed from them is a
hypothesis of the theorem that uses it (Diffie–Hellman symmetry; AES being a permutation for a fixed key).
"Unrelated values across steps / indices" is the PRF assumption on AES/HKDF and is *not* proved.
-/
namespace IpaVerif.C06
open IpaVerif.Prss IpaVerif.Generated.Prss

theorem two_pow_packShift : 2 ^ packShift = 4294967296 := rfl

theorem offset_lt {o : Nat} (h : o ≤ maxOffset) : o < 2 ^ packShift :=
  Nat.lt_of_le_of_lt h (by decide)

theorem pack_of_le {index offset : Nat} (h : offset ≤ maxOffset) :
    pack index offset = .ok (index * 2 ^ packShift + offset) := by
  rw [pack, if_neg (show ¬ offset ≥ 2 ^ 32 from Nat.not_le.mpr (offset_lt h)), if_pos h, Nat.shiftLeft_eq]

/-- offsets beyond the cap, or not fitting a `u32`, are rejected (never wrapped). -/
theorem pack_rejects (i o : Nat) (h : o > 2048) : ∃ m, pack i o = .err m := by
  unfold pack
  split
  · exact ⟨_, rfl⟩
  · exact ⟨_, if_neg (Nat.not_le.mpr h)⟩

theorem pack_ok (index offset v : Nat) (h : pack index offset = .ok v) :
    offset ≤ maxOffset ∧ v = index * 2 ^ packShift + offset := by
  by_cases ho : offset ≤ maxOffset
  · rw [pack_of_le ho] at h
    exact ⟨ho, (Outcome.ok.inj h).symm⟩
  · obtain ⟨m, hm⟩ := pack_rejects index offset (Nat.not_le.mp ho)
    rw [hm] at h
    cases h

theorem div_mod_mul_add (Z k i : Nat) (hi : i < Z) : (k * Z + i) / Z = k ∧ (k * Z + i) % Z = i := by
  rw [Nat.mul_comm]
  exact ⟨by rw [Nat.mul_add_div (by omega), Nat.div_eq_of_lt hi]; rfl, by rw [Nat.mul_add_mod, Nat.mod_eq_of_lt hi]⟩

/-- what makes `(index, offset)`, `(chunk, block)` and `(batch, record)` pairs recoverable from their packed number -/
theorem mul_add_inj (Z k i k' i' : Nat) (hi : i < Z) (hi' : i' < Z) (h : k * Z + i = k' * Z + i') :
    k = k' ∧ i = i' := by
  have h1 := div_mod_mul_add Z k i hi
  have h2 := div_mod_mul_add Z k' i' hi'
  rw [h] at h1
  exact ⟨h1.1.symm.trans h2.1, h1.2.symm.trans h2.2⟩

/-- Within one `(step, index)`, block `i` of chunk `k` and block `i'` of chunk
`k'` (chunks of width `Z`) use different offsets unless `(k, i) = (k', i')`. -/
theorem chunk_offsets_distinct (Z k i k' i' : Nat) (hi : i < Z) (hi' : i' < Z)
    (h : k * Z + i = k' * Z + i') : k = k' ∧ i = i' :=
  mul_add_inj Z k i k' i' hi hi' h

/-- Distinct `(index, offset)` pairs (index a `u32`, offset within the cap)
are packed into distinct 128-bit AES input blocks. -/
theorem index_packing_injective (i o i' o' v : Nat)
    (h : pack i o = .ok v) (h' : pack i' o' = .ok v) : i = i' ∧ o = o' := by
  obtain ⟨h1, h2⟩ := pack_ok _ _ _ h
  obtain ⟨h3, h4⟩ := pack_ok _ _ _ h'
  exact mul_add_inj (2 ^ packShift) i o i' o' (offset_lt h1) (offset_lt h3) (h2.symm.trans h4)

/-- packing then `TryFrom<u128>` is the identity on valid indices. -/
theorem pack_unpack (i o v : Nat) (hi : i < 2 ^ 32) (h : pack i o = .ok v) : unpack v = .ok (i, o) := by
  obtain ⟨h1, rfl⟩ := pack_ok _ _ _ h
  obtain ⟨e1, e2⟩ := div_mod_mul_add (2 ^ packShift) i o (offset_lt h1)
  have e1' : (i * 2 ^ packShift + o) >>> unpackShift = i := (Nat.shiftRight_eq_div_pow _ _).trans e1
  have e2' : (i * 2 ^ packShift + o) &&& (2 ^ 32 - 1) = o := (Nat.and_two_pow_sub_one_eq_mod _ 32).trans e2
  have hlt := offset_lt h1
  rw [unpack, if_neg (by rw [two_pow_packShift] at hlt ⊢; omega)]
  simp only [e1', e2']
  exact if_pos h1

example : pack 7 2048 = .ok (7 * 4294967296 + 2048) ∧ (∃ m, pack 7 2049 = .err m) :=
  ⟨pack_of_le (by decide), pack_rejects 7 2049 (by decide)⟩

theorem mem_chunkOffsets (Z k o : Nat) : o ∈ chunkOffsets Z k ↔ ∃ i, i < Z ∧ o = k * Z + i := by
  simp only [chunkOffsets, List.mem_map, List.mem_range]
  exact exists_congr fun i => and_congr_right fun _ => eq_comm

/-- different chunks of one `ChunkIter` touch disjoint offsets. -/
theorem chunks_disjoint (Z k k' o : Nat) (hk : k ≠ k') (h : o ∈ chunkOffsets Z k) : o ∉ chunkOffsets Z k' := by
  rw [mem_chunkOffsets] at h ⊢
  rintro ⟨i', hi', e'⟩
  obtain ⟨i, hi, e⟩ := h
  exact hk (chunk_offsets_distinct Z k i k' i' hi hi' (by omega)).1

section crypto
variable {Sk Pk Sec Key : Type} (C : Crypto Sk Pk Sec Key)

theorem fin3_succ_pred : ∀ i : Fin 3, i + 1 - 1 = i := by decide

/-- Under Diffie–Hellman symmetry, for every step, index and offset, the value helper
`i` derives from the randomness shared with its right neighbour equals the value helper `i+1` derives from
its left-shared randomness. -/
theorem pairwise_agreement (s : Fin 3 → Setup Sk)
    (dh_symm : ∀ a b : Sk, C.dh a (C.pub b) = C.dh b (C.pub a))
    (i : Fin 3) (step : String) (packed : Nat) :
    rightValue C s i step packed = leftValue C s (i + 1) step packed := by
  unfold rightValue leftValue rightSecret leftSecret
  rw [fin3_succ_pred, dh_symm]

/-- non-vacuity: a toy commutative key agreement (`dh a (pub b) = a * b`). -/
example : ∃ C : Crypto Nat Nat Nat Nat, ∀ a b : Nat, C.dh a (C.pub b) = C.dh b (C.pub a) :=
  ⟨{ pub := id, dh := fun a b => a * b, hkdf := fun s _ => s, aes := fun k x => k + x }, fun a b => Nat.mul_comm a b⟩

/-- Every shard of a helper uses the seed pair distributed by the leader shard, so
all shards of one helper agree, and if the leaders' pairs match across neighbouring helpers (hypothesis `h`;
`pairwise_agreement` is the reason for seeds that are PRSS values), so do the pairs of any two shards. -/
theorem cross_shard_agreement {Seed : Type} (leaderSeeds : Fin 3 → Seed × Seed)
    (h : ∀ i, (leaderSeeds i).2 = (leaderSeeds (i + 1)).1) (shard shard' : Nat) (i : Fin 3) :
    shardSeeds leaderSeeds shard i = shardSeeds leaderSeeds shard' i ∧
    (shardSeeds leaderSeeds shard i).2 = (shardSeeds leaderSeeds shard' (i + 1)).1 := by
  simp [shardSeeds, h]

/-- Under one key, different `(index, offset)` feed different AES blocks;
AES being a permutation for a fixed key, the pre-xor outputs differ as well. -/
theorem distinct_inputs_distinct_blocks (K : Key) (aes_inj : ∀ x y, C.aes K x = C.aes K y → x = y)
    (i o i' o' v v' : Nat) (h : pack i o = .ok v) (h' : pack i' o' = .ok v') (hne : (i, o) ≠ (i', o')) :
    v ≠ v' ∧ C.aes K v ≠ C.aes K v' := by
  have hv : v ≠ v' := by
    intro e; subst e
    obtain ⟨a, b⟩ := index_packing_injective _ _ _ _ _ h h'
    exact hne (by rw [a, b])
  exact ⟨hv, fun e => hv (aes_inj _ _ e)⟩

end crypto

/-- Descriptive gates are injective in the step path: `narrow` appends `/step`, and a
step string never contains `/` (asserted by the code in debug builds). -/
theorem narrow_injective (g g' s s' : List Char) (hs : '/' ∉ s) (hs' : '/' ∉ s')
    (h : narrow g s = narrow g' s') : g = g' ∧ s = s' := by
  -- a step cannot start inside the other gate's `/step`: it would contain the `/`
  have aux : ∀ (a s s' : List Char), '/' ∉ s → '/' :: s = a ++ '/' :: s' → a = [] := by
    intro a s s' hs e
    cases a with
    | nil => rfl
    | cons c a => exact absurd ((List.cons.inj e).2 ▸ List.mem_append_right a List.mem_cons_self) hs
  rcases List.append_eq_append_iff.mp h with ⟨a, rfl, e⟩ | ⟨a, rfl, e⟩
  · obtain rfl := aux a s s' hs e
    exact ⟨(List.append_nil g).symm, (List.cons.inj e).2⟩
  · obtain rfl := aux a s' s hs' e
    exact ⟨List.append_nil g', ((List.cons.inj e).2).symm⟩

example : narrow "protocol".toList "mul".toList = "protocol/mul".toList := by simp [narrow]

/-- The PRSS record ranges `[b·K, (b+1)·K)` of different proof batches are
disjoint, and the `t`-th index drawn by batch `b` (`t < K`; `recursion_bound` of C03 shows at most
`K = PRSS_RECORDS_PER_BATCH` are drawn) lies inside the range of `b` only. -/
theorem dzkp_batch_ranges_disjoint (K b b' t t' : Nat) (hb : b ≠ b') (ht : t < K) (ht' : t' < K) :
    b * K + t ≠ b' * K + t' ∧
    (dzkpRange K b).1 ≤ b * K + t ∧ b * K + t < (dzkpRange K b).2 := by
  refine ⟨fun e => hb (mul_add_inj K b t b' t' ht ht' e).1, by simp [dzkpRange], ?_⟩
  simp only [dzkpRange, Nat.add_mul]
  omega

/-- the reserved range is the one computed from the extracted constants: 7 + 13·7 + 2 = 100 ids per batch. -/
example : IpaVerif.Generated.Dzkp.prssRecordsPerBatch = 100 := by decide

/-- The PRSS / channel record ids of the MAC validator's batches
(`3·o + {0,1,2}` for u, w, r at creation; `2·o + {0,1}` when propagating u and w) never collide between
different batch offsets or different roles. -/
theorem mac_records_disjoint (o o' : Nat) :
    (uRecord o macPrssCalls ≠ wRecord o' macPrssCalls) ∧ (uRecord o macPrssCalls ≠ rShareRecord o' macPrssCalls) ∧
    (wRecord o macPrssCalls ≠ rShareRecord o' macPrssCalls) ∧
    (o ≠ o' → uRecord o macPrssCalls ≠ uRecord o' macPrssCalls ∧ wRecord o macPrssCalls ≠ wRecord o' macPrssCalls ∧
      rShareRecord o macPrssCalls ≠ rShareRecord o' macPrssCalls) ∧
    (uRecord o macSends ≠ wRecord o' macSends) ∧
    (o ≠ o' → uRecord o macSends ≠ uRecord o' macSends ∧ wRecord o macSends ≠ wRecord o' macSends) := by
  simp only [uRecord, wRecord, rShareRecord, macPrssCalls, macSends, uRecordAdd, wRecordAdd, rRecordAdd]
  omega

theorem baseAfter_append (a b : List Nat) (d : Nat) : baseAfter (a ++ b) d = baseAfter a d + baseAfter b d := by
  simp only [baseAfter, ← List.sum_eq_foldl_nat, List.map_append, List.sum_append_nat]

/-- Over any sequence of `aggregate_values` calls sharing one `record_ids` array
(any chunking of the input), the ids used at one depth by an earlier call (`pre ++ [n]`) and by a later call
with `n'` rows, made after the calls `pre ++ [n] ++ mid`, are different: no `(depth, record id)` pair is ever
used twice. -/
theorem aggregate_record_ids (pre mid : List Nat) (n n' d i i' : Nat)
    (hi : i < halves n d) (_hi' : i' < halves n' d) :
    baseAfter pre d + i ≠ baseAfter (pre ++ [n] ++ mid) d + i' := by
  rw [baseAfter_append, baseAfter_append]
  have : baseAfter [n] d = halves n d := by simp [baseAfter]
  omega

theorem aggDepth_le : ∀ fuel d n, n ≤ 2 ^ d → aggDepth fuel n ≤ d := by
  intro fuel
  induction fuel with
  | zero => intro d n _; exact Nat.zero_le d
  | succ f ih =>
    intro d n h
    rw [aggDepth]
    split
    · cases d with
      | zero => rw [Nat.pow_zero] at h; omega
      | succ d' =>
        rw [Nat.pow_succ] at h
        have := ih d' ((n + 1) / 2) (by omega)
        omega
    · exact Nat.zero_le d

/-- the reduction of at most `2^AGGREGATE_DEPTH` rows needs at most `AGGREGATE_DEPTH` levels, so the index into
the `record_ids` array (`depth = level − 1 < AGGREGATE_DEPTH`) is always in bounds. -/
theorem aggregate_depth_in_bounds (fuel n : Nat) (h : n ≤ 2 ^ aggregateDepth) : aggDepth fuel n ≤ aggregateDepth :=
  aggDepth_le fuel aggregateDepth n h

example : aggDepth 64 (2 ^ 24) = 24 ∧ aggDepth 64 (2 ^ 24 + 1) = 25 ∧ halves 5 0 = 2 ∧ halves 5 1 = 1 ∧ halves 5 2 = 1 := by
  decide

/-- Once a gate has been handed out as sequential, every later indexed access to it
panics, and once it has been used indexed, a sequential request panics: a gate is never used both ways. -/
theorem indexed_xor_sequential (e e' : Endpoint) (g : String) :
    (∀ n, step e (.sequential g n) = .ok e' →
      (∀ idx Z c, ∃ m, step e' (.indexedBoth g idx Z c) = .panic m) ∧
      (∀ l idx Z c, ∃ m, step e' (.indexedOne g l idx Z c) = .panic m) ∧
      (∀ n', ∃ m, step e' (.sequential g n') = .panic m)) ∧
    (∀ a b, e.find g = some (.indexed a b) → ∀ n, ∃ m, step e (.sequential g n) = .panic m) := by
  refine ⟨fun n h => ?_, fun a b h n => by simp only [step, h]; exact ⟨_, rfl⟩⟩
  have hf : e'.find g = some .sequential := by
    simp only [step] at h
    split at h
    · cases h
    · split at h
      · cases h
      · cases h
        simp [Endpoint.set, Endpoint.find]
  simp only [step, hf]
  exact ⟨fun _ _ _ => ⟨_, rfl⟩, fun _ _ _ _ => ⟨_, rfl⟩, fun _ => ⟨_, rfl⟩⟩

theorem foldl_useOne_panic (new : List Nat) (m : String) :
    new.foldl useOne (Outcome.panic m : Outcome (List Nat)) = .panic m := by
  induction new with
  | nil => rfl
  | cons a r ih => exact ih

theorem useAll_cons (used : List Nat) (a : Nat) (r : List Nat) :
    useAll used (a :: r) = if a ∈ used then .panic "Generated randomness for index" else useAll (a :: used) r := by
  by_cases h : a ∈ used
  · rw [if_pos h, useAll, List.foldl_cons, useOne, if_pos (List.contains_iff_mem.mpr h)]
    exact foldl_useOne_panic r _
  · rw [if_neg h, useAll, List.foldl_cons, useOne, if_neg (mt List.contains_iff_mem.mp h)]
    rfl

/-- A successful draw of the packed indices `new` under one key means none of them had been
used before under that key and they are pairwise different; afterwards all of them are recorded. -/
theorem no_reuse (new used used' : List Nat) (h : useAll used new = .ok used') :
    (∀ v ∈ new, v ∉ used) ∧ new.Nodup ∧ (∀ v, v ∈ used' ↔ v ∈ used ∨ v ∈ new) := by
  induction new generalizing used with
  | nil =>
    cases h
    exact ⟨nofun, .nil, fun v => by simp⟩
  | cons a r ih =>
    rw [useAll_cons] at h
    split at h
    · cases h
    · next hna =>
      obtain ⟨h1, h2, h3⟩ := ih (a :: used) h
      refine ⟨List.forall_mem_cons.mpr ⟨hna, fun v hv hu => h1 v hv (List.mem_cons_of_mem _ hu)⟩,
        List.nodup_cons.mpr ⟨fun hm => h1 a hm List.mem_cons_self, h2⟩, fun v => ?_⟩
      rw [h3, List.mem_cons, List.mem_cons, or_assoc, or_left_comm]

example : useAll [5] [7, 5] = .panic "Generated randomness for index" ∧ useAll [5] [7, 8] = .ok [8, 7, 5] :=
  ⟨rfl, rfl⟩

end IpaVerif.C06
