import IpaVerif.Props.C04
import IpaVerif.Proofs.C04Down
/-!
# C04 — one attacked gate anywhere in a circuit

`single_gate_anywhere_T`: with honest gates before and after ONE attacked multiplication / upgrade (the later gates
may consume the attacked wire), `T = (δ′ − r̂·δ)·(α̂ + c)`, `c` not involving `r`, the attacked gate's `α` or the
check-zero mask.  `single_attack_accept_iff`: such a run is accepted iff `ρ̂·((α̂ + c)·(δ′ − r̂·δ)) = 0` — exactly the
predicate counted by `single_attack_bad_set_card` (`Props/C04Count.lean`).
-/
namespace IpaVerif.C04
open IpaVerif.Sharing IpaVerif.Mac IpaVerif.Generated.Mac

variable {R : Type} [CommRing R]

/-- honest gates `gs₀`, then ONE multiplication whose messages carry errors (`e` on the
value part, `e'` on the MAC part), then honest gates `gs₁` (which may consume the attacked wire):
`Σ_k α̂_k·D_k = (δ′ − r̂·δ)·(α̂ + c)` with `c = kterms gs₁ …` — a quantity that does not involve `r`, the attacked
gate's `α`, or the check-zero mask. Likewise for an attacked upgrade (`δ′·(α̂ + c)`). -/
theorem single_gate_anywhere_T (rh : R) (gs₀ gs₁ : List (Gate R)) (h0 : ∀ g ∈ gs₀, GateHonest g)
    (h1 : ∀ g ∈ gs₁, GateHonest g) :
    (∀ i j ρ ρ' α e e',
      termSum (macTerms rh (gs₀ ++ Gate.mul i j ρ ρ' α e e' :: gs₁) [])
        = (errSum e' - rh * errSum e) *
          (rec α + kterms gs₁ (kInit gs₀ ++ [((plain gs₀ []).getD i 0 * (plain gs₀ []).getD j 0 + errSum e, 1)]))) ∧
    (∀ x ρ α e',
      termSum (macTerms rh (gs₀ ++ Gate.upgrade x ρ α e' :: gs₁) [])
        = errSum e' * (rec α + kterms gs₁ (kInit gs₀ ++ [(rec x, 1)]))) := by
  constructor
  · intro i j ρ ρ' α e e'
    exact macTerms_single rh h0 h1 (by simp only [pstep, pget_intact, intact, zero_mul, zero_add])
  · intro x ρ α e'
    exact macTerms_single rh h0 h1 (by simp only [pstep, zero_add])

/-- one attacked multiplication anywhere, nothing else altered: `validate` returns
`Ok` iff `ρ̂·((α̂ + c)·(δ′ − r̂·δ)) = 0`. -/
theorem single_attack_accept_iff [DecidableEq R] (r : World R) (hr : Consistent r) (mu mw : Masks R)
    (gs₀ gs₁ : List (Gate R)) (hok0 : ∀ g ∈ gs₀, GateOk g) (hok1 : ∀ g ∈ gs₁, GateOk g)
    (h0 : ∀ g ∈ gs₀, GateHonest g) (h1 : ∀ g ∈ gs₁, GateHonest g)
    (i j : Nat) (ρ ρ' : Masks R) (α : World R) (hα : Consistent α) (e e' : Err R)
    (czρ : Masks R) (czMask : World R) (hcz : Consistent czMask) :
    let c := kterms gs₁ (kInit gs₀ ++ [((plain gs₀ []).getD i 0 * (plain gs₀ []).getD j 0 + errSum e, 1)])
    validateE (ringAlg R) r
        (run (ringAlg R) r (gs₀ ++ Gate.mul i j ρ ρ' α e e' :: gs₁) ⟨[], initAcc (ringAlg R) mu mw⟩).acc
        (noValErr (ringAlg R)) czρ czMask = true ↔
      rec czMask * ((rec α + c) * (errSum e' - rec r * errSum e)) = 0 := by
  intro c
  have hok : ∀ g ∈ gs₀ ++ Gate.mul i j ρ ρ' α e e' :: gs₁, GateOk g :=
    List.forall_mem_append.mpr ⟨hok0, List.forall_mem_cons.mpr ⟨hα, hok1⟩⟩
  refine (attack_accept_iff r hr mu mw _ hok (noValErr (ringAlg R)) czρ czMask hcz).trans ?_
  rw [(single_gate_anywhere_T (rec r) gs₀ gs₁ h0 h1).1 i j ρ ρ' α e e']
  simp only [noValErr, errSum_noErr, zero_mul, sub_zero, add_zero, mul_comm (errSum e' - rec r * errSum e), c]

end IpaVerif.C04
