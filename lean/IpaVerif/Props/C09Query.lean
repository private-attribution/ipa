import IpaVerif.Model.QueryString
/-!
# C09 — `QueryConfig` survives the HTTP query string

`querystring_roundtrip`: for **every** valid configuration (every field type, every query type, all
parameter values) parsing the key/value pairs written by `Display` returns the configuration.
The splitting/escaping of the string and the text form of scalars are serde_urlencoded's / std's and lie outside
the model (an assumption of the property, not a hypothesis of the theorem); the suite `c09_query` runs the
real axum extractor, serde_urlencoded and serde_json on every combination.
The same assumption for the JSON form (`PrepareQuery` body, `RouteParams::extra`) needs serde_json's
`float_roundtrip` feature — enabled by the fix C09-JSON-F64 and checked by the translator item
`wire.serde_json_float_roundtrip`; `json_roundtrip` states the consequence for the scalar codec as a parameter.
-/
namespace IpaVerif.C09
open IpaVerif.QueryString

theorem fieldName_cases {α : Type} (ft : FieldType) (k : FieldType → α) (d : α) :
    (if fieldName ft = "Fp31" then k .fp31 else if fieldName ft = "Fp32BitPrime" then k .fp32 else d) = k ft := by
  cases ft <;> rfl

theorem querystring_roundtrip (c : QueryConfig) (h : c.Valid) : fromPairs (toPairs c) = some c := by
  obtain ⟨size, ft, qt⟩ := c
  obtain ⟨h0, h1, h2⟩ := h
  simp only at h0 h1 h2
  have hs : size < 2 ^ 32 := by simp only [maxSize] at h1; omega
  have hsz : ¬ (size = 0 ∨ size > maxSize) := by omega
  -- the three common keys are looked up once; `-zeta` keeps the parser's continuations shared, so that the
  -- field type is dispatched by `fieldName_cases` without copying what follows it
  simp -zeta only [fromPairs, getNat, getStr, lookup, toPairs, List.cons_append, List.find?_cons, String.reduceBEq,
    Option.map_some, hs, hsz, if_true, if_false, Option.bind_eq_bind, Option.bind_some, fieldName_cases]
  cases qt with
  | maliciousHybrid p =>
    obtain ⟨mbk, dp, eps, pm⟩ := p
    simp only [queryTypeStr, String.reduceEq, if_true, if_false, List.nil_append, List.find?_cons, String.reduceBEq,
      Option.map_some, h2.1, h2.2, Option.bind_some, Option.pure_def]
    cases pm <;> rfl
  | _ => simp only [queryTypeStr, String.reduceEq, if_true, if_false, Option.pure_def]

/-- JSON form: a configuration whose scalars are written by `print` and read by `parse` comes back unchanged as soon
as `parse ∘ print = some` on the epsilon token (what `float_roundtrip` provides; without it `parse (print x)` could be a
neighbouring double, `json_roundtrip_unfixed_counterexample`). The other fields are integers/enums/booleans. -/
theorem json_roundtrip {F T : Type} (print : F → T) (parse : T → Option F)
    (h : ∀ x, parse (print x) = some x) (mbk dp : Nat) (eps : F) (pm : Bool) :
    (parse (print eps)).map (fun e => (mbk, dp, e, pm)) = some (mbk, dp, eps, pm) := by
  rw [h]; rfl

example : ∀ x : Nat, (fun n : Nat => some n) (id x) = some x := fun _ => rfl

/-- a reader that is one unit off on some printed value does not return the
configuration (`Nat` stands for the bit pattern of the double; 0x402e70fe1300d65a is 15.220688432552539, which
serde_json without `float_roundtrip` read back as 0x402e70fe1300d65b). -/
theorem json_roundtrip_unfixed_counterexample :
    let parseOff : Nat → Option Nat := fun n => some (if n = 0x402e70fe1300d65a then n + 1 else n)
    (parseOff (id 0x402e70fe1300d65a)).map (fun e => (5, 1, e, false)) ≠ some (5, 1, 0x402e70fe1300d65a, false) := by
  decide

/-- sizes outside 1..=10^9 are rejected whatever the rest says -/
theorem querystring_rejects_bad_size (ps : Pairs) (n : Nat) (h : lookup ps "size" = some (.nat n))
    (hn : n = 0 ∨ n > maxSize) : fromPairs ps = none := by
  have hg : getNat ps "size" (2 ^ 32) = if n < 2 ^ 32 then some n else none := by
    simp only [getNat, h]
  unfold fromPairs
  rw [hg]
  by_cases hb : n < 2 ^ 32
  · rw [if_pos hb]
    show (if n = 0 ∨ n > maxSize then none else _) = none
    rw [if_pos hn]
  · rw [if_neg hb]
    rfl

example : QueryConfig.Valid (QueryConfig.mk 1000000000 .fp32 (.maliciousHybrid (HybridParams.mk 5 1 "5" true))) := by
  simp [QueryConfig.Valid, maxSize]

end IpaVerif.C09
