import IpaVerif.Props.C07
/-!
# C07 — cross-shard histogram merge (`protocol/basics/shard_fin.rs`, `Histogram::merge`)

The leader folds the per-shard histograms with `integer_sat_add` per bucket, in shard order (`mergeStep`). Suite request
`c07.merge` runs the real `FinalizerContext::finalize` against this fold (`Driver/C07.lean: mergeOp`).
-/
namespace IpaVerif.C07
open IpaVerif.Circuits

def mergeStep (w acc x : Nat) : Nat := val (integerSatAdd plainAlg [] (bitsOf w acc) (bitsOf w x))

theorem mergeStep_value (w acc x : Nat) (h : acc < 2 ^ w) : mergeStep w acc x = min (acc + x % 2 ^ w) (2 ^ w - 1) := by
  unfold mergeStep
  rw [sat_add_value, bitsOf_length, val_bitsOf, val_bitsOf, Nat.mod_eq_of_lt h, Nat.mod_mod]

/-- For every number of shards and all per-shard values the folded bucket is `min(Σ vᵢ mod 2^w, 2^w − 1)`: saturating,
independent of where in the fold the overflow happens. -/
theorem merge_value (w : Nat) : ∀ (rest : List Nat) (v : Nat), v < 2 ^ w →
    rest.foldl (mergeStep w) v = min (v + (rest.map (· % 2 ^ w)).sum) (2 ^ w - 1) := by
  intro rest
  induction rest with
  | nil => intro v h; rw [List.foldl_nil, List.map_nil, List.sum_nil]; omega
  | cons x rest ih =>
    intro v h
    rw [List.foldl_cons, List.map_cons, List.sum_cons, mergeStep_value w v x h,
      ih _ (Nat.lt_of_le_of_lt (Nat.min_le_right ..) (Nat.sub_lt (Nat.two_pow_pos w) Nat.one_pos)), min_add_min, Nat.add_assoc]

/-- overflow in the middle of the fold: 200 + 100 + 3 in an 8-bit bucket is 255, not 47. -/
example : [100, 3].foldl (mergeStep 8) 200 = 255 := by decide

end IpaVerif.C07
