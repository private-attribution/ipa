import IpaVerif.Model.Circuits
import IpaVerif.Props.C07
import IpaVerif.Props.C07Lift
/-!
# C07 — `mul_value`: the plaintext value of `integer_mul` (boolean_ops/multiplication.rs)

Doc comment of the Rust function: *x is assumed to be a positive number, y is assumed to be in two's complement
and can be either signed or unsigned*; the result has `new_len = |x| + |y|` bits.  The model
(`Circuits.integerMul`) transcribes the loop: `y` is sign-extended to `L = n + m` bits (`resizeLast`), for the
`i`-th bit `yb` the partial product `t = yb · x[0 .. L − i)` is added with `integer_add` onto `result[i ..]`, and the
carry is appended **while `result.len() < new_len`**.

All statements are for ARBITRARY lengths `n = |x|`, `m = |y| ≥ 1` (the code panics on empty `y`); for `n = 0` the
output is an all-zero list of fewer than `n + m` bits.

The loop invariant (`mulLoop_value`) needs the EXACT carry-append guard: before bit `i ≥ 1` the accumulator has
at least `i` and at most `min (n + i) L` bits, so that `result[i ..]` is never longer than the partial product and
exactly `L` bits are there at the end.  With the guard `i < x.len()` instead, the accumulator stops
growing after `n` bits of `y`, the lower bound and the invariant (and the function) break for `m > n`;
see `mul_guard_mutant_counterexample`.
-/
namespace IpaVerif.C07
open IpaVerif.Sharing IpaVerif.Circuits

theorem mulRow_plain (p : Path) (yb : Bool) : ∀ (j : Nat) (x : List Bool),
    mulRow plainAlg p yb j x = x.map (fun xb => yb && xb) := by
  intro j x
  induction x generalizing j with
  | nil => rfl
  | cons a as ih => rw [mulRow, List.map_cons, ih]; rfl

theorem val_map_and (yb : Bool) (x : List Bool) : val (x.map (fun xb => yb && xb)) = yb.toNat * val x := by
  cases yb
  · exact ((congrArg val List.map_const').trans (val_replicate_false _)).trans (Nat.zero_mul _).symm
  · simp

/-- Truncating `x` to `L − i` bits only drops multiples of `2^L` from the shifted partial product. -/
theorem row_value (x : List Bool) (L i : Nat) (yb : Bool) (hi : i ≤ L) :
    (2 ^ i * val ((x.take (L - i)).map (fun xb => yb && xb))) % 2 ^ L = (2 ^ i * (yb.toNat * val x)) % 2 ^ L := by
  obtain ⟨k, rfl⟩ := Nat.exists_eq_add_of_le hi
  rw [val_map_and, val_take, Nat.add_sub_cancel_left, Nat.mul_left_comm, Nat.mul_left_comm (2 ^ i), Nat.pow_add,
    ← Nat.mul_mod_mul_left]
  exact Nat.mul_mod_mod ..

theorem addAt_value (p : Path) (t acc : List Bool) (i : Nat) (hi : i ≤ acc.length) (hlen : acc.length ≤ i + t.length) :
    (integerAdd plainAlg p t (acc.drop i)).1.length = t.length ∧
    val (acc.take i ++ (integerAdd plainAlg p t (acc.drop i)).1)
      + 2 ^ (i + t.length) * (integerAdd plainAlg p t (acc.drop i)).2.toNat = val acc + 2 ^ i * val t := by
  have hv := integer_add_value p t (acc.drop i)
  have hd : val (acc.drop i) < 2 ^ t.length :=
    Nat.lt_of_lt_of_le (val_lt _) (Nat.pow_le_pow_right Nat.two_pos (by rw [List.length_drop]; exact Nat.sub_le_iff_le_add'.mpr hlen))
  rw [Nat.mod_eq_of_lt hd] at hv
  refine ⟨(add_value p 0 t _ false).1, ?_⟩
  rw [val_append, List.length_take, Nat.min_eq_left hi, val_take, Nat.pow_add, Nat.mul_assoc, Nat.add_assoc,
    ← Nat.mul_add, hv, val_drop, Nat.mul_add, Nat.add_left_comm, Nat.mod_add_div]
  exact Nat.add_comm _ _

/-- One iteration `i ≥ 1`: all it needs of the accumulator is `i ≤ |result| ≤ min (n + i) L`; the exact carry-append
guard keeps these bounds. -/
theorem mulStep_value (p : Path) (x : List Bool) (L : Nat) (result : List Bool) (i : Nat) (yb : Bool)
    (hi : 1 ≤ i) (hiL : i < L) (h1 : i ≤ result.length) (h2 : result.length ≤ x.length + i) (h3 : result.length ≤ L) :
    (i + 1 ≤ (mulStep plainAlg p x L result i yb).length ∧
      (mulStep plainAlg p x L result i yb).length ≤ x.length + (i + 1) ∧
      (mulStep plainAlg p x L result i yb).length ≤ L) ∧
    val (mulStep plainAlg p x L result i yb) % 2 ^ L = (val result + 2 ^ i * (yb.toNat * val x)) % 2 ^ L := by
  have ht : ((x.take (L - i)).map (fun xb => yb && xb)).length = min (L - i) x.length := by
    rw [List.length_map, List.length_take]
  have hq : i + min (L - i) x.length = min L (x.length + i) := by
    rw [← Nat.add_min_add_left, Nat.add_sub_cancel' (Nat.le_of_lt hiL), Nat.add_comm i]
  obtain ⟨hrl, hrv⟩ := addAt_value (p ++ [i] ++ [stepAdd]) _ result i h1
    (by rw [ht, hq]; exact Nat.le_min.mpr ⟨h3, h2⟩)
  rw [← Nat.add_mod_mod, ← row_value x L i yb (Nat.le_of_lt hiL), Nat.add_mod_mod, ← hrv, ht, hq]
  unfold mulStep
  simp only [if_neg (Nat.ne_of_gt hi), mulRow_plain]
  generalize integerAdd plainAlg (p ++ [i] ++ [stepAdd]) _ (result.drop i) = r at hrl ⊢
  have hres : (result.take i ++ r.1).length = min L (x.length + i) := by
    rw [List.length_append, List.length_take, Nat.min_eq_left h1, hrl, ht, hq]
  rw [hres]
  by_cases h : min L (x.length + i) < L
  · rw [if_pos h, List.length_append, List.length_singleton, val_append, val_singleton, hres]
    exact ⟨⟨Nat.succ_le_succ (Nat.le_min.mpr ⟨Nat.le_of_lt hiL, Nat.le_add_left ..⟩),
      Nat.succ_le_succ (Nat.min_le_right ..), h⟩, rfl⟩
  · have e : min L (x.length + i) = L := Nat.le_antisymm (Nat.min_le_left ..) (Nat.le_of_not_lt h)
    rw [if_neg h, hres, e, Nat.add_mul_mod_self_left]
    exact ⟨⟨hiL, Nat.le_succ_of_le (e ▸ Nat.min_le_right L (x.length + i)), Nat.le_refl _⟩, rfl⟩

/-- `pre`: the bits of `y` consumed so far. -/
theorem mulLoop_value (p : Path) (x : List Bool) (L : Nat) :
    ∀ (ys pre result : List Bool), pre.length + ys.length = L → 1 ≤ pre.length →
      pre.length ≤ result.length → result.length ≤ x.length + pre.length → result.length ≤ L →
      val result % 2 ^ L = (val x * val pre) % 2 ^ L →
      (mulLoop plainAlg p x L pre.length ys result).length = L ∧
      val (mulLoop plainAlg p x L pre.length ys result) % 2 ^ L = (val x * val (pre ++ ys)) % 2 ^ L := by
  intro ys
  induction ys with
  | nil =>
    intro pre result hL _ h1 _ h3 hval
    rw [List.append_nil]
    exact ⟨Nat.le_antisymm h3 (hL ▸ h1), hval⟩
  | cons yb ys ih =>
    intro pre result hL hp h1 h2 h3 hval
    rw [List.length_cons, Nat.add_comm ys.length, ← Nat.add_assoc] at hL
    obtain ⟨⟨s1, s2, s3⟩, hsv⟩ := mulStep_value p x L result pre.length yb hp
      (hL ▸ Nat.lt_of_lt_of_le (Nat.lt_succ_self _) (Nat.le_add_right ..)) h1 h2 h3
    have := ih (pre ++ [yb]) (mulStep plainAlg p x L result pre.length yb)
    rw [List.length_append, List.length_singleton, List.append_assoc] at this
    refine this hL (Nat.le_add_left ..) s1 s2 s3 ?_
    rw [hsv, val_append, ← Nat.mod_add_mod, hval, Nat.mod_add_mod, Nat.mul_add, Nat.mul_left_comm (val x),
      Nat.mul_comm (val x) (val [yb])]
    rfl

/-! `x` empty: every partial product is empty; the accumulator only collects zero carries. -/

theorem mulStep_nil (p : Path) (L : Nat) (result : List Bool) (i : Nat) (yb : Bool) (h : val result = 0) :
    val (mulStep plainAlg p [] L result i yb) = 0 := by
  have ht : val (result.take i) = 0 := by rw [val_take, h, Nat.zero_mod]
  unfold mulStep
  simp only [List.take_nil, mulRow, integerAdd, additionCircuit, List.append_nil]
  split
  · rfl
  · split
    · rw [val_append, ht]; rfl
    · exact ht

theorem mulLoop_nil (p : Path) (L : Nat) : ∀ (ys : List Bool) (i : Nat) (result : List Bool), val result = 0 →
    val (mulLoop plainAlg p [] L i ys result) = 0 := by
  intro ys
  induction ys with
  | nil => intro i r h; exact h
  | cons yb ys ih => intro i r h; exact ih _ _ (mulStep_nil p L r i yb h)

/-- two's-complement value of a bit list: `val y − 2^|y|` if the top bit is set. -/
def sval (y : List Bool) : Int := (val y : Int) - (msb y).toNat * 2 ^ y.length

theorem val_resizeLast (y : List Bool) (L : Nat) (hL : y.length ≤ L) :
    val (resizeLast y L false) + (msb y).toNat * 2 ^ y.length = val y + (msb y).toNat * 2 ^ L := by
  obtain ⟨k, rfl⟩ := Nat.exists_eq_add_of_le hL
  rw [resizeLast, List.take_of_length_le hL, val_append, show y.getLastD false = msb y from rfl,
    Nat.add_sub_cancel_left, Nat.pow_add]
  cases msb y
  · simp [val_replicate_false]
  · rw [← val_replicate_true k, Nat.mul_add]; simp only [Bool.toNat_true, Nat.one_mul, Nat.mul_one]
    exact Nat.add_assoc ..

theorem resizeLast_length (y : List Bool) (L : Nat) (hL : y.length ≤ L) : (resizeLast y L false).length = L := by
  rw [resizeLast, List.take_of_length_le hL, List.length_append, List.length_replicate, Nat.add_sub_cancel' hL]

/-- `integer_mul`: the product of the unsigned `x` with the sign-extended `y`, modulo `2^(n+m)`; `n + m` bits whenever
`x` is non-empty. -/
theorem mul_value (p : Path) (x y : List Bool) (hy : y ≠ []) :
    ∃ r, integerMul plainAlg p x y = some r ∧
      val r = (val x * val (resizeLast y (x.length + y.length) false)) % 2 ^ (x.length + y.length) ∧
      (1 ≤ x.length → r.length = x.length + y.length) := by
  have hxL : x.length < x.length + y.length := Nat.lt_add_of_pos_right (List.length_pos_iff.mpr hy)
  have hyl := resizeLast_length y (x.length + y.length) (Nat.le_add_left ..)
  rw [integerMul, if_neg (mt List.isEmpty_iff.mp hy)]
  refine ⟨_, rfl, ?_⟩
  simp only [show plainAlg.zero = false from rfl]
  generalize resizeLast y (x.length + y.length) false = y' at hyl ⊢
  generalize x.length + y.length = L at *
  cases y' with
  | nil => exact absurd hyl (Nat.ne_of_lt (Nat.zero_lt_of_lt hxL))
  | cons yb ys =>
    have h0 : mulStep plainAlg p x L [] 0 yb = x.map (fun xb => yb && xb) := by
      simp only [mulStep, ↓reduceIte, Nat.sub_zero, mulRow_plain, List.take_of_length_le (Nat.le_of_lt hxL)]
    rw [mulLoop, h0]
    by_cases hn : 1 ≤ x.length
    · obtain ⟨hl, hv⟩ := mulLoop_value p x L ys [yb] (x.map (fun xb => yb && xb))
        (by rw [← hyl, List.length_cons, Nat.add_comm]; rfl) (Nat.le_refl 1)
        (by rw [List.length_map]; exact hn) (by rw [List.length_map]; exact Nat.le_succ _)
        (by rw [List.length_map]; exact Nat.le_of_lt hxL) (by rw [val_map_and, Nat.mul_comm]; rfl)
      exact ⟨(Nat.mod_eq_of_lt (Nat.lt_of_lt_of_eq (val_lt _) (congrArg (2 ^ ·) hl))).symm.trans hv, fun _ => hl⟩
    · rw [List.eq_nil_of_length_eq_zero (Nat.eq_zero_of_not_pos hn)]
      exact ⟨by rw [mulLoop_nil p L ys 1 _ rfl]; simp [val], fun h => nomatch h⟩

/-- documented use with an unsigned `y` (top bit clear): exactly `val x · val y`. -/
theorem mul_value_unsigned (p : Path) (x y : List Bool) (hy : y ≠ []) (hmsb : msb y = false) :
    ∃ r, integerMul plainAlg p x y = some r ∧ val r = val x * val y := by
  obtain ⟨r, hr, hv, _⟩ := mul_value p x y hy
  refine ⟨r, hr, ?_⟩
  have h := val_resizeLast y (x.length + y.length) (Nat.le_add_left ..)
  simp only [hmsb, Bool.toNat_false, Nat.zero_mul, Nat.add_zero] at h
  rw [hv, h, Nat.pow_add]
  exact Nat.mod_eq_of_lt (Nat.mul_lt_mul'' (val_lt x) (val_lt y))

/-- `mul_value_unsigned` is not vacuous. -/
example : msb [true, true, false] = false ∧ [true, true, false] ≠ [] := by decide

/-- `y` in two's complement: the `(n+m)`-bit result is `val x · sval y` modulo `2^(n+m)`. -/
theorem mul_value_signed (p : Path) (x y : List Bool) (hy : y ≠ []) :
    ∃ r, integerMul plainAlg p x y = some r ∧
      (val r : Int) = ((val x : Int) * sval y) % (2 : Int) ^ (x.length + y.length) := by
  obtain ⟨r, hr, hv, _⟩ := mul_value p x y hy
  refine ⟨r, hr, ?_⟩
  have hz : ((val (resizeLast y (x.length + y.length) false) : Nat) : Int)
      = sval y + (msb y).toNat * (2 : Int) ^ (x.length + y.length) := by
    rw [sval, sub_add_eq_add_sub, eq_sub_iff_add_eq]
    exact_mod_cast val_resizeLast y (x.length + y.length) (Nat.le_add_left ..)
  rw [hv]; push_cast
  rw [hz, Int.mul_add, ← Int.mul_assoc, Int.add_mul_emod_self_right]

/-- `0b11` is `−1`, `0b01` is `1`. -/
example : sval [true, true] = -1 ∧ sval [true, false] = 1 := by decide

theorem msb_iff (y : List Bool) (hy : y ≠ []) : msb y = decide (2 ^ (y.length - 1) ≤ val y) := by
  obtain rfl | ⟨l, b, rfl⟩ := List.eq_nil_or_concat y
  · exact absurd rfl hy
  · rw [List.concat_eq_append, msb, List.getLastD_concat, val_append, List.length_append, List.length_singleton, Nat.add_sub_cancel]
    exact (split_carry (val_lt l) rfl).2

/-- the statement in the form the correspondence oracle evaluates (`Driver.C07.specLane`):
`y` is read as an `m`-bit two's-complement number, sign-extended to `n + m` bits. -/
theorem mul_value_spec (p : Path) (x y : List Bool) (hy : y ≠ []) :
    ∃ r, integerMul plainAlg p x y = some r ∧
      val r = (val x * (if 2 ^ (y.length - 1) ≤ val y then val y + (2 ^ (x.length + y.length) - 2 ^ y.length) else val y))
        % 2 ^ (x.length + y.length) := by
  obtain ⟨r, hr, hv, _⟩ := mul_value p x y hy
  refine ⟨r, hr, ?_⟩
  have h := val_resizeLast y (x.length + y.length) (Nat.le_add_left ..)
  have hp : 2 ^ y.length ≤ 2 ^ (x.length + y.length) := Nat.pow_le_pow_right Nat.two_pos (Nat.le_add_left ..)
  rw [hv]
  rw [msb_iff y hy] at h
  split
  · next hc =>
    simp only [hc, decide_true, Bool.toNat_true, Nat.one_mul] at h
    rw [← Nat.add_sub_assoc hp, ← h, Nat.add_sub_cancel]
  · next hc => simp only [hc, decide_false, Bool.toNat_false, Nat.zero_mul, Nat.add_zero] at h; rw [h]

/-- composition with `mul_shares`: on consistent replicated sharings, for ALL PRSS masks, `integer_mul` returns
consistent sharings that reconstruct to the product. -/
theorem mul_shares_value (ρ : Path → Masks Bool) (p : Path) (x y : List (World Bool)) (hx : AllC x) (hy : AllC y)
    (hne : y ≠ []) :
    ∃ r, integerMul (shareAlg ρ) p x y = some r ∧ AllC r ∧
      val (r.map recB) = (val (x.map recB) * val (resizeLast (y.map recB) (x.length + y.length) false))
        % 2 ^ (x.length + y.length) := by
  obtain ⟨hc, hrec⟩ := mul_shares ρ p x y hx hy
  obtain ⟨r', hr', hv, _⟩ := mul_value p (x.map recB) (y.map recB) (mt List.map_eq_nil_iff.mp hne)
  obtain ⟨r, hm, rfl⟩ := Option.map_eq_some_iff.mp (hrec.trans hr')
  refine ⟨r, hm, hc r hm, ?_⟩
  rw [hv, List.length_map, List.length_map]

/-- `mulStep` with the guard `i < x.len()` for appending the carry. -/
def mulStepMutant (A : SecureAlg Bool) (p : Path) (x : List Bool) (newLen : Nat) (result : List Bool) (i : Nat) (yb : Bool) : List Bool :=
  let pi := p ++ [i]
  let t := mulRow A pi yb 0 (x.take (newLen - i))
  if i = 0 then t else
    let r := integerAdd A (pi ++ [stepAdd]) t (result.drop i)
    let res := result.take i ++ r.1
    if i < x.length then res ++ [r.2] else res

def mulLoopMutant (p : Path) (x : List Bool) (newLen : Nat) : Nat → List Bool → List Bool → List Bool
  | _, [], result => result
  | i, yb :: ys, result => mulLoopMutant p x newLen (i + 1) ys (mulStepMutant plainAlg p x newLen result i yb)

/-- With the carry appended while `i < x.len()` instead of `result.len() < new_len` (`mulStepMutant`,
`mulLoopMutant`): for `x = 3`
(2 bits) and the unsigned `y = 0b0110 = 6` (4 bits) the real loop returns 18, the mutated loop a different value
(the carry out of bit position 3 is lost). -/
theorem mul_guard_mutant_counterexample :
    (integerMul plainAlg [] [true, true] [false, true, true, false]).map val = some 18 ∧
    val (mulLoopMutant [] [true, true] 6 0 (resizeLast [false, true, true, false] 6 false) []) ≠ 18 := by decide

end IpaVerif.C07
