import IpaVerif.Model.CrossShard
/-!
# C06 — all shards of one helper hold the leader's cross-shard stream, under every fault pattern

`gen_and_distribute` per shard (`Model/CrossShard.lean`). The theorems quantify over every shard count, every
assignment of per-shard seeds (`own`), and every fault pattern of the leader's seed channels (`deliver`): a
shard that comes out `Ok` holds exactly the leader's pair; a shard the record did not reach comes out
`EndOfStream`; `fallback_counterexample` shows what the fallback variant (`None => prss.generate(..)`) does.
-/
namespace IpaVerif.C06Shard
open IpaVerif.CrossShard

/-- Regenerated from `gen_and_distribute` on every run (plugin `c06_xshard`): the follower
arm is `try_next().await?.ok_or_else(EndOfStream)?` + `from_seeds(..).setup()` and never mentions `prss`. -/
theorem follower_arm_ok :
    IpaVerif.Generated.CrossShard.followerErrOnEmpty = true ∧
    IpaVerif.Generated.CrossShard.followerNeverGenerates = true ∧
    IpaVerif.Generated.CrossShard.recognised = true := by decide

theorem code_follower_strict {Seed : Type} : @codeFollower Seed = followerStrict := by
  unfold codeFollower
  simp [follower_arm_ok.1, follower_arm_ok.2.1]

theorem shardOutcome_eq {Seed : Type} (own : Nat → Seed) (deliver : Nat → Bool) (j : Nat) :
    shardOutcome own deliver j = if j = 0 ∨ deliver j = true then .ok (own 0) else .endOfStream := by
  unfold shardOutcome shardOutcomeWith genAndDistributeWith
  rw [code_follower_strict]
  by_cases hj : j = 0
  · subst hj; rfl
  · cases hd : deliver j <;> simp [hj, followerStrict]

/-- every `Ok` shard holds the LEADER's pair — any shard count, any per-shard seeds, any fault pattern -/
theorem ok_is_leaders {Seed : Type} (own : Nat → Seed) (deliver : Nat → Bool) (j : Nat) (s : Seed)
    (h : shardOutcome own deliver j = .ok s) : s = own 0 := by
  rw [shardOutcome_eq] at h
  split at h
  · exact (Outcome.ok.inj h).symm
  · cases h

/-- Any two shards of a helper that return `Ok` derive the same endpoint (same seed
pair, hence the same stream for every gate and index), for EVERY fault pattern of the leader's channels. -/
theorem cross_shard_identical {Seed : Type} (own : Nat → Seed) (deliver : Nat → Bool) (j k : Nat) (a b : Seed)
    (hj : shardOutcome own deliver j = .ok a) (hk : shardOutcome own deliver k = .ok b) : a = b := by
  rw [ok_is_leaders own deliver j a hj, ok_is_leaders own deliver k b hk]

/-- a follower the record did not reach FAILS (it never continues on seeds of its own) -/
theorem no_record_fails {Seed : Type} (own : Nat → Seed) (deliver : Nat → Bool) (j : Nat)
    (hj : j ≠ 0) (hd : deliver j = false) : shardOutcome own deliver j = .endOfStream := by
  rw [shardOutcome_eq, if_neg (by simp [hj, hd])]

/-- a shard the record reached, and the leader itself, succeed with the leader's pair (no spurious failure) -/
theorem record_succeeds {Seed : Type} (own : Nat → Seed) (deliver : Nat → Bool) (j : Nat)
    (h : j = 0 ∨ deliver j = true) : shardOutcome own deliver j = .ok (own 0) := by
  rw [shardOutcome_eq, if_pos h]

/-- Three helpers, each with its own fault pattern; the leaders' pairs are
neighbour-consistent (hypothesis `hlead`; the leader draws them from shard 0's per-shard PRSS, for which
`C06.pairwise_agreement` is the reason).
Then ANY `Ok` shard of helper i and ANY `Ok` shard of helper i+1 — not necessarily the same shard index — agree:
right seed of the one = left seed of the other. -/
theorem cross_shard_matches_neighbours {S : Type} (own : Fin 3 → Nat → S × S) (deliver : Fin 3 → Nat → Bool)
    (hlead : ∀ i, (own i 0).2 = (own (i + 1) 0).1) (i : Fin 3) (j k : Nat) (a b : S × S)
    (hj : shardOutcome (own i) (deliver i) j = .ok a) (hk : shardOutcome (own (i + 1)) (deliver (i + 1)) k = .ok b) :
    a.2 = b.1 := by
  rw [ok_is_leaders _ _ j a hj, ok_is_leaders _ _ k b hk]
  exact hlead i

/-- the hypotheses are satisfiable with pairwise different per-shard seeds: helper i, shard j owns
`(10 i + j, 10 (i+1 mod 3) + j)` -/
example : ∀ i : Fin 3, ((fun (i : Fin 3) (j : Nat) => (10 * i.val + j, 10 * ((i + 1 : Fin 3)).val + j)) i 0).2
    = ((fun (i : Fin 3) (j : Nat) => (10 * i.val + j, 10 * ((i + 1 : Fin 3)).val + j)) (i + 1) 0).1 := by decide

example : shardOutcome (fun j => 10 + j) (fun j => j != 2) 2 = .endOfStream := by decide
example : shardOutcome (fun j => 10 + j) (fun j => j != 2) 1 = .ok 10 := by decide

/-- With `None => prss.generate(RecordId::FIRST)` in the follower arm,
three shards with own seeds 10, 11, 12 whose leader closed its channels without sending all come out `Ok` — with
three different streams (and a leader that reached shard 1 only leaves shard 2 on a stream of its own); the code
gives one stream and `EndOfStream` on the shards the record did not reach. Fault-free, the two are identical. -/
theorem fallback_counterexample :
    (List.range 3).map (shardOutcomeWith followerFallback (fun j => 10 + j) (fun _ => false))
      = [.ok 10, .ok 11, .ok 12] ∧
    distinctOk ((List.range 3).map (shardOutcomeWith followerFallback (fun j => 10 + j) (fun _ => false))) = 3 ∧
    (List.range 3).map (shardOutcomeWith followerFallback (fun j => 10 + j) (fun j => j == 1))
      = [.ok 10, .ok 10, .ok 12] ∧
    (List.range 3).map (shardOutcome (fun j => 10 + j) (fun _ => false))
      = [.ok 10, .endOfStream, .endOfStream] ∧
    distinctOk ((List.range 3).map (shardOutcome (fun j => 10 + j) (fun j => j == 1))) = 1 ∧
    (List.range 3).map (shardOutcomeWith followerFallback (fun j => 10 + j) (fun _ => true))
      = (List.range 3).map (shardOutcome (fun j => 10 + j) (fun _ => true)) := by
  decide

end IpaVerif.C06Shard
