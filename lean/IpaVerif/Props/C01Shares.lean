import IpaVerif.Props.C01
import IpaVerif.Proofs.C01BitsAgg
/-!
# C01 at the share level — `pipeline_eq_spec_shares`

Composition of C01's value-level theorem with C07's circuit theorems. The secure-computation stages of
`hybrid_protocol` run on replicated Boolean shares (`Model/HybridShares.lean`, circuits of
`Model/Circuits.lean` over `shareAlg ρ` for arbitrary PRSS masks `ρ`).

What is modelled at the reconstructed level (and said so in the statement): the PRF pseudonym of a record
(`key`, revealed by the protocol; injectivity on the keys present is the hypothesis `hf` as in
`pipeline_eq_spec`), the opened breakdown key (`reveal = recBits`: a reveal returns the reconstruction,
C04/C07), and the two shuffles with their DP padding, which are arbitrary *relations*: any re-sharing
(arbitrary fresh, consistent shares of the right widths) of any permutation of the reconstructed records
plus dummies.
-/
namespace IpaVerif.C01
open IpaVerif.Sharing IpaVerif.Circuits IpaVerif.Hybrid IpaVerif.HybridShares IpaVerif.C07

/-- **second half of the pipeline on shares**: reveal + `ValueHistogram` + chunked trees per shard, then
the cross-shard finalize. -/
theorem sTail_rec (ρ : Path → Masks Bool) (p : Path) (W : Widths) (hW : W.vW ≤ W.hvW) (chunk : Nat)
    (afterShuffle2 : List (List (SRow SW))) (hne : afterShuffle2 ≠ [])
    (hg : ∀ s ∈ afterShuffle2, ∀ r ∈ s, GoodRow W r) :
    GoodHist W (sTail (shareAlg ρ) recBits p W chunk afterShuffle2) ∧
    (sTail (shareAlg ρ) recBits p W chunk afterShuffle2).map recBits
      = finalize W ((afterShuffle2.map (List.map recRow)).map (shardHistogram W chunk)) := by
  obtain ⟨hgood, hmap⟩ := zipWith_idx_spec
    (fun d rows => sShardHistogram (shareAlg ρ) recBits (p ++ [d]) W chunk rows) (GoodHist W) (List.map recBits)
    (fun rows => shardHistogram W chunk (rows.map recRow)) afterShuffle2 (List.range afterShuffle2.length)
    (by rw [List.length_range]) fun d rows hr => by
      obtain ⟨h1, h2, h3⟩ := sShardHistogram_rec ρ (p ++ [d]) W hW chunk rows (hg rows hr)
      exact ⟨⟨h2, h1⟩, h3⟩
  obtain ⟨r1, r2⟩ := sFinalize_rec ρ (p ++ [stepFinalize]) W _
    (fun h => hne (List.map_eq_nil_iff.mp (by rw [← hmap, h, List.map_nil]))) hgood
  refine ⟨r1, ?_⟩
  rw [sTail, r2, hmap, List.map_map]
  rfl

/-- **C01 on shares.** For every input, every number of shards ≥ 1, every PRSS mask family `ρ`, every
outcome of the two shuffles/paddings (any consistent re-sharing, with the right bit widths, of any
permutation across shards of the reconstructed records plus fresh zero-payload dummies, resp. of the
aggregated rows plus zero-value dummies), any PRF injective on the keys present: the shares of the
histogram that the leader shard outputs are consistent replicated sharings of `HV::BITS` bits per bucket
and **reconstruct to the in-the-clear specification of the input**. -/
theorem pipeline_eq_spec_shares (W : Widths) (hW : W.vW ≤ W.hvW) (chunk : Nat) (f : Nat → Nat)
    (ρ : Path → Masks Bool) (p1 p2 : Path)
    (input dummies1 : List Rec) (afterShuffle1 : List (List (SRec SW)))
    (afterShuffle2 : List (List (SRow SW))) (dummies2 : List Row)
    (hshards : 0 < afterShuffle1.length) (hshards2 : afterShuffle2 ≠ [])
    (hg1 : ∀ s ∈ afterShuffle1, ∀ r ∈ s, GoodRec W r)
    (hsh1 : (afterShuffle1.flatten.map recRec).Perm (input ++ dummies1))
    (hzero : ∀ r ∈ dummies1, r.bk = 0 ∧ r.v = 0)
    (hfresh : ∀ r ∈ dummies1, ∀ r' ∈ input, r'.key ≠ r.key)
    (hf : ∀ r ∈ input ++ dummies1, ∀ r' ∈ input ++ dummies1, f r.key = f r'.key → r.key = r'.key)
    (hg2 : ∀ s ∈ afterShuffle2, ∀ r ∈ s, GoodRow W r)
    (hsh2 : (afterShuffle2.flatten.map recRow).Perm
      ((sHead (shareAlg ρ) p1 f afterShuffle1).flatten.map recRow ++ dummies2))
    (hd2 : ∀ r ∈ dummies2, r.2 = 0) :
    (sTail (shareAlg ρ) recBits p2 W chunk afterShuffle2).map recBits = spec W input ∧
    GoodHist W (sTail (shareAlg ρ) recBits p2 W chunk afterShuffle2) := by
  obtain ⟨t1, t2⟩ := sTail_rec ρ p2 W hW chunk afterShuffle2 hshards2 hg2
  obtain ⟨_, h2⟩ := sHead_rec ρ p1 W f afterShuffle1 hg1
  refine ⟨?_, t1⟩
  rw [t2]
  apply pipeline_eq_spec_rel W chunk f input dummies1 (afterShuffle1.map (List.map recRec))
    (afterShuffle2.map (List.map recRow)) dummies2
  · simpa using hshards
  · rw [← List.map_flatten]; exact hsh1
  · exact hzero
  · exact hfresh
  · exact hf
  · rw [← List.map_flatten, List.length_map, ← h2, ← List.map_flatten]
    exact hsh2
  · exact hd2

/-- `GoodHist`, the second conclusion of `pipeline_eq_spec_shares`, spelt out: one entry per bucket, `HV::BITS` bits
each, and in every bit helper `i`'s right component is helper `i+1`'s left component (what `reconstruct` asserts in
the test fixture). -/
theorem pipeline_shares_consistent (W : Widths) (h : List (List SW)) (hg : GoodHist W h) :
    h.length = W.buckets ∧ ∀ x ∈ h, x.length = W.hvW ∧ ∀ s ∈ x, Consistent s :=
  ⟨hg.1, fun x hx => ⟨(hg.2 x hx).2, (hg.2 x hx).1⟩⟩

/-- Corollary / joint satisfiability of the hypotheses: the canonical run on shares (identity shuffles,
identity PRF, no dummies) of ANY consistent, width-correct sharing of any records on ≥ 1 shards
reconstructs to the specification of the reconstructed records. -/
theorem run_shares_eq_spec (W : Widths) (hW : W.vW ≤ W.hvW) (chunk : Nat) (ρ : Path → Masks Bool) (p1 p2 : Path)
    (shards : List (List (SRec SW))) (h : 0 < shards.length) (hg : ∀ s ∈ shards, ∀ r ∈ s, GoodRec W r) :
    (sTail (shareAlg ρ) recBits p2 W chunk (sHead (shareAlg ρ) p1 id shards)).map recBits
      = spec W (shards.flatten.map recRec) ∧
    GoodHist W (sTail (shareAlg ρ) recBits p2 W chunk (sHead (shareAlg ρ) p1 id shards)) := by
  refine pipeline_eq_spec_shares W hW chunk id ρ p1 p2 (shards.flatten.map recRec) [] shards _ [] h ?_ hg
    (by rw [List.append_nil]) (fun _ hr => nomatch hr) (fun _ hr => nomatch hr) (fun _ _ _ _ hk => hk)
    (sHead_rec ρ p1 W id shards hg).1 (by rw [List.append_nil]) (fun _ hr => nomatch hr)
  intro hnil
  have hlen : (sHead (shareAlg ρ) p1 id shards).length = shards.length := by
    rw [sHead, List.length_map, List.length_range]
  rw [hnil] at hlen
  exact Nat.ne_of_lt h hlen

/-- bit `b` shared as `(r1, r2, b ⊕ r1 ⊕ r2)`. -/
def shB (b r1 r2 : Bool) : SW := share boolAlg b r1 r2

/-- Non-vacuity: two shards, a pair split across the shards whose breakdown keys wrap
(3+2 mod 4 = 1, value 0+3), a second pair in the same bucket whose values wrap (2+3 mod 4 = 1), a lone record; non-trivial shares
and masks. The hypotheses hold and the reconstructed output is `[0, 4, 0, 0]`. -/
example :
    let W : Widths := { bkW := 2, vW := 2, hvW := 3, buckets := 4 }
    let ρ : Path → Masks Bool := fun p => ⟨p.length % 2 == 0, true, p.sum % 3 == 1⟩
    let shards : List (List (SRec SW)) :=
      [[⟨7, [shB true true false, shB true false true], [shB false false false, shB false true true]⟩,
        ⟨9, [shB true false false, shB false true false], [shB false true false, shB true false true]⟩,
        ⟨4, [shB true true true, shB true true true], [shB false false false, shB false false false]⟩],
       [⟨7, [shB false true true, shB true true false], [shB true false true, shB true true true]⟩,
        ⟨9, [shB false false false, shB false false false], [shB true true false, shB true false false]⟩]]
    (∀ s ∈ shards, ∀ r ∈ s, GoodRec W r) ∧
    (sTail (shareAlg ρ) recBits [] W 2 (sHead (shareAlg ρ) [] id shards)).map recBits = [0, 4, 0, 0] := by
  intro W ρ shards
  constructor
  · unfold GoodRec AllC Consistent
    decide
  · decide +kernel

/-- Non-vacuity of `aggTree_bits` / `addPair_bits`: three consistent 2-bit rows (2, 3, 3) aggregate to the
saturated 3-bit value 7 (the third row passes through the first level); a pair whose sums wrap. -/
example :
    let ρ : Path → Masks Bool := fun p => ⟨true, p.length % 2 == 1, false⟩
    let rows : List (List SW) := [[shB false true false, shB true true true], [shB true false false, shB true true false],
      [shB true false true, shB true false false]]
    (∀ r ∈ rows, AllC r) ∧ (∀ r ∈ rows, r.length = 2) ∧
    recBits (aggregateValues (shareAlg ρ) [] 3 rows) = 7 ∧
    recRow (sAddPair (shareAlg ρ) [] 0
      (⟨1, [shB true true false, shB true false true], [shB true false false, shB true true true]⟩,
       ⟨1, [shB false true true, shB true true false], [shB true false true, shB true true true]⟩)) = (1, 2) := by
  intro ρ rows
  refine ⟨?_, by decide, by decide +kernel, by decide⟩
  unfold AllC Consistent
  decide

end IpaVerif.C01
