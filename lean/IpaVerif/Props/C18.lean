import IpaVerif.Model.Lifecycle
/-!
# C18 — the query lifecycle is a consistent state machine under any sequence of API calls

All theorems are about `IpaVerif.Lifecycle.step` / `run` (one `Processor`, arbitrary histories of
arbitrary length, arbitrary replies of peers and shards, tasks that return `Ok` or `Err`), whose
tables `minStatus`/`transition`/`kindStatus` are regenerated from `ipa-core/src/query/state.rs`.
-/
namespace IpaVerif.C18
open IpaVerif.Lifecycle IpaVerif.Generated.Lifecycle

/-- The order the property states: preparing < awaiting inputs < running < awaiting completion < completed. -/
def rank : Status → Nat
  | .preparing => 0
  | .awaitingInputs => 1
  | .running => 2
  | .awaitingCompletion => 3
  | .completed => 4

def qrank : QS → Nat
  | .preparing => 0
  | .awaitingInputs => 1
  | .running _ _ => 2
  | .awaitingCompletion _ => 3
  | .completed _ => 4

/-- The status of a stored state (`QueryStatus::from` panics on `Empty` only, which is never stored). -/
def qstatus : QS → Status
  | .preparing => .preparing
  | .awaitingInputs => .awaitingInputs
  | .running _ _ => .running
  | .awaitingCompletion _ => .awaitingCompletion
  | .completed _ => .completed

theorem qrank_eq (q : QS) : qrank q = rank (qstatus q) := by cases q <;> rfl

theorem forall₂_of_mem {α : Type} {l : List α} (mem : ∀ a, a ∈ l) {P : α → α → Prop}
    (h : ∀ a ∈ l, ∀ b ∈ l, P a b) (a b : α) : P a b :=
  h a (mem a) b (mem b)

theorem mem_allStatuses (a : Status) : a ∈ allStatuses := by cases a <;> decide

theorem mem_allKinds (k : Kind) : k ∈ allKinds := by cases k <;> decide

/-- Rust's exhaustiveness: every pair of statuses is matched by some arm of `min_status`. -/
theorem minStatus_arm_found (a b : Status) :
    (minStatusArms.find? (fun arm => pat arm.1 a && pat arm.2.1 b)).isSome = true := by
  revert a b; exact forall₂_of_mem mem_allStatuses (by decide +kernel)

theorem rank_injective (a b : Status) (h : rank a = rank b) : a = b := by
  revert a b; exact forall₂_of_mem mem_allStatuses (by decide +kernel)

theorem rank_minStatus (a b : Status) : rank (minStatus a b) = min (rank a) (rank b) := by
  revert a b; exact forall₂_of_mem mem_allStatuses (by decide +kernel)

/-- `min_status` is the meet of the status order: it is the minimum of the ranks (all 25 pairs of
the regenerated table), hence commutative, associative and idempotent, `rank` being injective. -/
theorem min_status_is_meet :
    (∀ a b, minStatus a b = minStatus b a) ∧
    (∀ a b c, minStatus (minStatus a b) c = minStatus a (minStatus b c)) ∧
    (∀ a, minStatus a a = a) ∧
    (∀ a b, rank (minStatus a b) = min (rank a) (rank b)) := by
  refine ⟨fun a b => rank_injective _ _ ?_, fun a b c => rank_injective _ _ ?_,
    fun a => rank_injective _ _ ?_, rank_minStatus⟩
  · rw [rank_minStatus, rank_minStatus, Nat.min_comm]
  · simp only [rank_minStatus, Nat.min_assoc]
  · rw [rank_minStatus, Nat.min_self]

/-- The allowed-transition table is exactly: Empty→Preparing, Empty→AwaitingInputs,
Preparing→AwaitingInputs, AwaitingInputs→Running (all 36 pairs of the regenerated table). -/
theorem transition_ok_iff (c n : Kind) :
    transition c n = .ok ↔
      (c = .empty ∧ n = .preparing) ∨ (c = .empty ∧ n = .awaitingInputs) ∨
      (c = .preparing ∧ n = .awaitingInputs) ∨ (c = .awaitingInputs ∧ n = .running) := by
  revert c n; exact forall₂_of_mem mem_allKinds (by decide +kernel)

/-- `transition` panics only when the `InvalidState` error has to name the status of `Empty`
(the processor never asks for such a transition, see `no_panic_no_phantom_state`). -/
theorem transition_panic_iff (c n : Kind) :
    transition c n = .panic ↔ (c = .empty ∧ n ≠ .preparing ∧ n ≠ .awaitingInputs) ∨ (c ≠ .empty ∧ n = .empty) := by
  revert c n; exact forall₂_of_mem mem_allKinds (by decide +kernel)

theorem statusOf_eq (q : QS) : statusOf q = some (qstatus q) := by cases q <;> rfl

@[simp] theorem tr_to_preparing (e : Option QS) :
    transition (entryKind e) .preparing = if e.isSome then .alreadyRunning else .ok := by
  cases e with
  | none => rfl
  | some q => cases q <;> rfl
@[simp] theorem tr_prep_ai : transition .preparing .awaitingInputs = .ok := rfl
@[simp] theorem tr_empty_ai : transition .empty .awaitingInputs = .ok := rfl
@[simp] theorem st_preparing : statusOf .preparing = some .preparing := rfl
@[simp] theorem st_ai : statusOf .awaitingInputs = some .awaitingInputs := rfl
@[simp] theorem st_running (i r) : statusOf (.running i r) = some .running := rfl
@[simp] theorem st_ac (i) : statusOf (.awaitingCompletion i) = some .awaitingCompletion := rfl
@[simp] theorem st_completed (r) : statusOf (.completed r) = some .completed := rfl

theorem step_newQuery (p : Pos) (s : St) (peers shards : List Reply) : step p s (.newQuery peers shards) =
    if s.entry.isSome then (s, .err .alreadyRunning)
    else if anyReject peers then (s, .err .mpcTransport)
    else if anyReject shards then (s, .err .shardBroadcast)
    else ({ s with entry := some .awaitingInputs }, .ok) := by
  obtain ⟨_ | q, pending, next⟩ := s
  · rfl
  · simp only [step, tr_to_preparing]; rfl

def isPanicResp : Resp → Bool
  | .panic => true
  | .resolved r => isPanicResp r
  | _ => false

def isApiOp : Op → Bool
  | .taskReturns _ _ => false
  | _ => true

def isAnswer : Resp → Bool
  | .ok | .started _ | .status _ | .err _ | .pending _ => true
  | _ => false

/-- Everything a call can do, with its answer. The state is left as it was (`refused`, `dropped`),
or gets the lazy `Running → Completed` bookkeeping of `get_status` (`asked`, `compared`), or the query
takes one of the four steps forward, or it is forgotten (`killed`, `rejected`, `completed`, and
`resolved` if the entry is still the one the waiting `complete` made). -/
inductive Move (s : St) : Op → St × Resp → Prop
  | refused (op e) : Move s op (s, .err e)
  | dropped (id o) : Move s (.taskReturns id o) (s, .dropped)
  | asked (sh q r) : refresh s.entry = some q → isAnswer r = true →
      Move s (.queryStatus sh) ({ s with entry := some q }, r)
  | compared (req q r) : refresh s.entry = some q → isAnswer r = true →
      Move s (.shardStatus req) ({ s with entry := some q }, r)
  | created (op) : ¬ s.entry.isSome → Move s op ({ s with entry := some .awaitingInputs }, .ok)
  | started : s.entry = some .awaitingInputs →
      Move s .receiveInputs ({ s with entry := some (.running s.next none), next := s.next + 1 }, .started s.next)
  | waiting (sh id) : s.entry = some (.running id none) →
      Move s (.complete sh) ({ s with entry := some (.awaitingCompletion id), pending := id :: s.pending }, .pending id)
  | stored (id o) : s.entry = some (.running id none) →
      Move s (.taskReturns id o) ({ s with entry := some (.running id (some o)) }, .stored)
  | killed : Move s .kill ({ s with entry := none }, .ok)
  | rejected (sh) : Move s (.complete sh) ({ s with entry := none }, .err .shardError)
  | completed (sh o) : Move s (.complete sh) ({ s with entry := none }, outcomeResp o)
  | resolved (id o) : id ∈ s.pending →
      Move s (.taskReturns id o)
        ({ s with entry := if s.entry = some (.awaitingCompletion id) then none else s.entry,
                  pending := s.pending.erase id }, .resolved (outcomeResp o))

theorem step_move (p : Pos) (s : St) (op : Op) : Move s op (step p s op) := by
  cases op with
  | taskReturns id o =>
    rw [step]
    -- `resolved` first: its new entry is itself an `if`
    repeat' first | (subst_vars; constructor <;> first | assumption | rfl) | split
  | _ =>
    -- `↓`: `new_query` in the form `step_newQuery` gives it, before `step` unfolds it
    simp only [↓step_newQuery, step, tr_empty_ai, statusOf_eq]
    -- split down to the branches; each is a move whose hypotheses `split` left in the context
    repeat' first | split | (subst_vars; constructor <;> first | assumption | rfl)

theorem isAnswer_not_panic (r : Resp) (h : isAnswer r = true) : isPanicResp r = false := by
  cases r <;> first | rfl | cases h

theorem step_api_answer (p : Pos) (s : St) (op : Op) (h : isApiOp op = true) :
    isAnswer (step p s op).2 = true := by
  have hm := step_move p s op
  generalize step p s op = x at hm ⊢
  cases hm with
  | dropped | stored | resolved => cases h
  | asked _ _ _ _ ha | compared _ _ _ _ ha => exact ha
  | completed _ o => cases o <;> rfl
  | _ => rfl

theorem step_no_panic (p : Pos) (s : St) (op : Op) : isPanicResp (step p s op).2 = false := by
  have hm := step_move p s op
  generalize step p s op = x at hm ⊢
  cases hm with
  | asked _ _ _ _ ha | compared _ _ _ _ ha => exact isAnswer_not_panic _ ha
  | completed _ o | resolved _ o => cases o <;> rfl
  | _ => rfl

theorem qrank_refresh {q q' : QS} (h : refresh (some q) = some q') : qrank q ≤ qrank q' := by
  cases q with
  | running _ r => cases r <;> cases h <;> exact of_decide_eq_true rfl
  | _ => cases h; exact Nat.le_refl _

/-- One call never moves an existing query backwards (it may forget it). -/
theorem status_monotone_step (p : Pos) (s : St) (op : Op) (q q' : QS)
    (h : s.entry = some q) (h' : (step p s op).1.entry = some q') : qrank q ≤ qrank q' := by
  have hm := step_move p s op
  generalize step p s op = x at hm h'
  cases hm with
  | refused | dropped => cases h.symm.trans h'; exact Nat.le_refl _
  | asked _ _ _ hq | compared _ _ _ hq => cases h'; exact qrank_refresh (h ▸ hq)
  | created _ he => exact absurd (h ▸ rfl) he
  | started he | waiting _ _ he | stored _ _ he => cases h.symm.trans he; cases h'; exact of_decide_eq_true rfl
  | killed | rejected | completed => cases h'
  | resolved =>
    split at h'
    · cases h'
    · cases h.symm.trans h'; exact Nat.le_refl _

/-- Along every history (any length, any replies, any task outcomes), as long as
the query is not forgotten in between, its status never decreases in the order
preparing < awaiting inputs < running < awaiting completion < completed. -/
theorem status_monotone (p : Pos) (ops : List Op) :
    ∀ (s : St) (q q' : QS), s.entry = some q → (finalState p s ops).entry = some q' →
      (∀ k, k ≤ ops.length → (finalState p s (ops.take k)).entry ≠ none) → qrank q ≤ qrank q' := by
  induction ops with
  | nil => intro s q q' h h' _; cases h.symm.trans h'; exact Nat.le_refl _
  | cons op rest ih =>
    intro s q q' h h' hne
    cases hq1 : (step p s op).1.entry with
    | none => exact absurd hq1 (hne 1 (Nat.succ_le_succ (Nat.zero_le _)))
    | some q1 =>
      exact Nat.le_trans (status_monotone_step p s op q q1 h hq1)
        (ih _ q1 q' hq1 h' fun k hk => hne (k + 1) (Nat.succ_le_succ hk))

example : finalState ⟨0, true⟩ {} [.newQuery [.accept, .accept] [], .receiveInputs, .taskReturns 0 .ok, .queryStatus []]
    = { entry := some (.completed .ok), pending := [], next := 1 } := by decide

/-- Errors that mean "not valid in the current state / at this processor". -/
def invalidClass : Err → Bool
  | .alreadyRunning | .invalidState _ _ | .noSuchQuery | .wrongTarget | .notLeader | .leader
  | .differentStatus _ _ => true
  | _ => false

/-- Spec side: is the request valid for a processor at position `p` whose query is in state
`s.entry`? (task events are not requests). -/
def validNow (p : Pos) (s : St) : Op → Bool
  | .newQuery _ _ => s.entry.isNone
  | .prepareHelper _ => p.helper ≠ 0 && p.leader && s.entry.isNone
  | .prepareShard => !p.leader && s.entry.isNone
  | .receiveInputs => s.entry == some .awaitingInputs
  | .queryStatus _ => p.leader && s.entry.isSome
  | .shardStatus req => !p.leader && ((refresh s.entry).bind statusOf == some req)
  | .complete _ => match s.entry with
      | some (.running _ _) | some (.completed _) => true
      | _ => false
  | .kill => s.entry.isSome
  | .taskReturns _ _ => true

def isInvalid : Resp → Bool
  | .err e => invalidClass e
  | _ => false

theorem refresh_isSome (e : Option QS) : (refresh e).isSome = e.isSome := by
  rcases e with _ | _ | _ | ⟨_, _ | _⟩ | _ | _ <;> rfl

theorem invalid_iff (p : Pos) (s : St) (op : Op) : isInvalid (step p s op).2 = !validNow p s op := by
  cases op with
  | newQuery peers shards =>
    rw [step_newQuery, validNow]
    cases s.entry <;> cases anyReject peers <;> cases anyReject shards <;> rfl
  | prepareHelper shards =>
    rw [step, validNow]
    -- only a leader that is not helper 0 gets as far as looking at the state
    obtain ⟨_ | _, _ | _⟩ := p <;> first | rfl | (cases s.entry <;> cases anyReject shards <;> rfl)
  | prepareShard | kill =>
    rw [step, validNow]
    cases p.leader <;> cases s.entry <;> rfl
  | receiveInputs =>
    rw [step, validNow]
    rcases s.entry with _ | q
    · rfl
    · cases q <;> rfl
  | queryStatus shards =>
    rw [step, validNow, ← refresh_isSome]
    cases p.leader
    · rfl
    · cases refresh s.entry with
      | none => rfl
      | some q =>
        simp only [statusOf_eq]
        cases foldStatus (qstatus q) shards <;> rfl
  | shardStatus req =>
    rw [step, validNow]
    cases p.leader
    · cases refresh s.entry with
      | none => rfl
      | some q =>
        by_cases h : req = qstatus q
        · simp [isInvalid, statusOf_eq, h]
        · simp [isInvalid, invalidClass, statusOf_eq, h, Ne.symm h]
    · rfl
  | complete shards =>
    rw [step, validNow]
    rcases s.entry with _ | q
    · rfl
    · cases q with
      | preparing | awaitingInputs | awaitingCompletion => rfl
      | completed o => cases o <;> rfl
      | running id r =>
        rcases r with _ | _ | _ <;> cases p.leader && anyReject shards <;> rfl
  | taskReturns id o =>
    rw [step]
    (repeat' split) <;> rfl

/-- A request that is invalid in the current state is
answered with an error of the invalid-request class; a valid one never is; and every call answered
with such an error leaves the processor state unchanged (up to the lazy `Running → Completed`
bookkeeping of `get_status`, which does not change what the query *is*). -/
theorem invalid_request_errs_and_preserves (p : Pos) (s : St) (op : Op) :
    (validNow p s op = false → ∃ e, (step p s op).2 = .err e ∧ invalidClass e = true) ∧
    (validNow p s op = true → ∀ e, (step p s op).2 = .err e → invalidClass e = false) ∧
    (∀ e, (step p s op).2 = .err e → invalidClass e = true →
        (step p s op).1 = s ∨ (step p s op).1 = { s with entry := refresh s.entry }) := by
  have h := invalid_iff p s op
  refine ⟨fun hv => ?_, fun hv e he => ?_, fun e he hc => ?_⟩
  · rw [hv] at h
    revert h
    cases (step p s op).2 with
    | err e => exact fun h => ⟨e, rfl, h⟩
    | _ => exact nofun
  · rw [hv, he] at h
    exact h
  · have hm := step_move p s op
    generalize step p s op = x at hm he ⊢
    cases hm with
    | refused | dropped => exact Or.inl rfl
    | asked _ _ _ hq | compared _ _ _ hq => exact Or.inr (hq ▸ rfl)
    | completed _ o => cases o <;> cases he <;> cases hc
    | _ => cases he <;> cases hc

def isCreate : Op → Bool
  | .newQuery _ _ | .prepareHelper _ | .prepareShard => true
  | _ => false

/-- If `new_query` / `prepare_helper` / `prepare_shard` does not
succeed (peer or shard rejection, wrong target, already running, …) the processor is in exactly the
state it was in before, so the rest of any history behaves as if the call had never been made. -/
theorem failed_create_leaves_no_trace (p : Pos) (s : St) (op : Op) (rest : List Op)
    (hc : isCreate op = true) (hf : (step p s op).2 ≠ .ok) :
    (step p s op).1 = s ∧ run p s (op :: rest) = ((step p s op).2, s) :: run p s rest := by
  have h1 : (step p s op).1 = s := by
    have hm := step_move p s op
    generalize step p s op = x at hm hf ⊢
    cases hm with
    | refused => rfl
    | created => exact absurd rfl hf
    | _ => cases hc
  refine ⟨h1, ?_⟩
  simp only [run]
  rw [h1]

example : (step ⟨0, true⟩ {} (.newQuery [.accept, .reject] [])).2 ≠ .ok := by decide

def isResult : Resp → Bool
  | .ok | .err .execution => true
  | _ => false

/-- When `complete` hands out the task's result (directly, or later
when the task returns to a waiting `complete`), the query is gone; a further `complete` is answered
`NoSuchQuery`; and a new query can be created. -/
theorem results_once_then_forgotten (p : Pos) (s : St) :
    (∀ shards r, (step p s (.complete shards)).2 = r → isResult r = true →
        (step p s (.complete shards)).1.entry = none) ∧
    (∀ id o r, (step p s (.taskReturns id o)).2 = .resolved r →
        r = outcomeResp o ∧ id ∈ s.pending ∧
        (s.entry = some (.awaitingCompletion id) → (step p s (.taskReturns id o)).1.entry = none) ∧
        (step p s (.taskReturns id o)).1.pending = s.pending.erase id) ∧
    (s.entry = none →
        (∀ shards, (step p s (.complete shards)).2 = .err .noSuchQuery) ∧
        (∀ peers shards, anyReject peers = false → anyReject shards = false →
          (step p s (.newQuery peers shards)) = ({ s with entry := some .awaitingInputs }, .ok))) := by
  refine ⟨?_, ?_, ?_⟩
  · intro shards r hr hres
    subst hr
    revert hres
    simp only [step, statusOf_eq]
    (repeat' split) <;> first | exact fun _ => rfl | exact nofun
  · intro id o r hr
    have hm := step_move p s (.taskReturns id o)
    generalize step p s (.taskReturns id o) = x at hm hr ⊢
    cases hm with
    | resolved _ _ hmem => cases hr; exact ⟨rfl, hmem, fun h => if_pos h, rfl⟩
    | _ => cases hr
  · intro hnone
    refine ⟨fun shards => by rw [step, hnone], fun peers shards hp hs => ?_⟩
    rw [step_newQuery, hnone, hp, hs]
    rfl

def differRanks : List SReply → List Nat
  | [] => []
  | .differ s :: rest => rank s :: differRanks rest
  | _ :: rest => differRanks rest

theorem foldStatus_spec (l : List SReply) : ∀ (mine st : Status), foldStatus mine l = some st →
    (∀ r ∈ l, r ≠ .other) ∧ rank st = (differRanks l).foldl min (rank mine) := by
  induction l with
  | nil => intro mine st h; cases h; exact ⟨nofun, rfl⟩
  | cons r rest ih =>
    intro mine st h
    cases r with
    | other => cases h
    | same => exact ⟨List.forall_mem_cons.2 ⟨nofun, (ih mine st h).1⟩, (ih mine st h).2⟩
    | differ s =>
      have := ih _ st h
      exact ⟨List.forall_mem_cons.2 ⟨nofun, this.1⟩, by rw [this.2, rank_minStatus]; rfl⟩

theorem foldl_min_le (l : List Nat) : ∀ a, l.foldl min a ≤ a ∧ ∀ x ∈ l, l.foldl min a ≤ x := by
  induction l with
  | nil => exact fun a => ⟨Nat.le_refl _, nofun⟩
  | cons y rest ih =>
    intro a
    have h := ih (min a y)
    exact ⟨Nat.le_trans h.1 (Nat.min_le_left _ _),
      List.forall_mem_cons.2 ⟨Nat.le_trans h.1 (Nat.min_le_right _ _), h.2⟩⟩

/-- When the leader's `query_status` answers with a status, no shard
answered with another error, and the reported status is the minimum (in the lifecycle order) of the
leader's own status and the statuses the differing shards reported — in particular it is not more
advanced than any shard. The result does not depend on the order of the replies
(`min_status_is_meet`). -/
theorem sharded_status_is_min (p : Pos) (s : St) (shards : List SReply) (st : Status)
    (h : (step p s (.queryStatus shards)).2 = .status st) :
    ∃ mine, passive (step p s (.queryStatus shards)).1 = some mine ∧
      (∀ r ∈ shards, r ≠ .other) ∧
      rank st = (differRanks shards).foldl min (rank mine) ∧
      rank st ≤ rank mine ∧ ∀ x ∈ differRanks shards, rank st ≤ x := by
  revert h
  simp only [step, statusOf_eq]
  split
  · nofun
  split
  · nofun
  next q hq =>
    cases hf : foldStatus (qstatus q) shards with
    | none => nofun
    | some st' =>
      intro h
      cases h
      have hs := foldStatus_spec shards _ _ hf
      have hle := foldl_min_le (differRanks shards) (rank (qstatus q))
      exact ⟨qstatus q, statusOf_eq q, hs.1, hs.2, hs.2 ▸ hle.1, fun x hx => hs.2 ▸ hle.2 x hx⟩

example : (step ⟨0, true⟩ { entry := some (.running 0 none) } (.queryStatus [.differ .completed, .same, .differ .awaitingInputs])).2
    = .status .awaitingInputs := by decide

theorem differRanks_all_same (l : List SReply) (h : ∀ r ∈ l, r = .same) : differRanks l = [] := by
  induction l with
  | nil => rfl
  | cons r rest ih =>
    cases h r List.mem_cons_self
    exact ih fun r hr => h r (List.mem_cons_of_mem _ hr)

theorem step_reports_stored_state (p : Pos) (s : St) (op : Op) (st : Status) :
    (∀ req, op = .shardStatus req → (step p s op).2 = .status st →
        passive (step p s op).1 = some st ∧ req = st) ∧
    (∀ shards, op = .queryStatus shards → (∀ r ∈ shards, r = .same) → (step p s op).2 = .status st →
        passive (step p s op).1 = some st) := by
  refine ⟨?_, ?_⟩
  · intro req hop h
    subst hop
    revert h
    simp only [step, statusOf_eq]
    split
    · nofun
    split
    · nofun
    next q hq =>
      split
      · nofun
      next hreq =>
        intro h
        cases h
        exact ⟨statusOf_eq q, Decidable.of_not_not hreq⟩
  · intro shards hop hall h
    subst hop
    obtain ⟨mine, hp, _, hr, _, _⟩ := sharded_status_is_min p s shards st h
    rw [differRanks_all_same shards hall] at hr
    rw [hp, rank_injective _ _ hr]

theorem status_only_when_asked (p : Pos) (s : St) (op : Op) (st : Status)
    (h : (step p s op).2 = .status st) : (∃ sh, op = .queryStatus sh) ∨ ∃ req, op = .shardStatus req := by
  have hm := step_move p s op
  generalize step p s op = x at hm h
  cases hm with
  | asked sh => exact Or.inl ⟨sh, rfl⟩
  | compared req => exact Or.inr ⟨req, rfl⟩
  | completed _ o | resolved _ o => cases o <;> cases h
  | _ => cases h

/-- For every history (any length) of API calls and task events in
which tasks end by returning `Ok` or `Err`, no call panics, and whenever a status is reported it is backed by (not more advanced than) the status
of the state stored after the call; equality, for `shard_status` and for `query_status` with all
shards agreeing, is `step_reports_stored_state`. -/
theorem no_panic_no_phantom_state (p : Pos) (ops : List Op) : ∀ (s : St),
    ∀ x ∈ run p s ops, isPanicResp x.1 = false ∧
      (∀ st, x.1 = .status st → ∃ mine, passive x.2 = some mine ∧ rank st ≤ rank mine) := by
  induction ops with
  | nil => intro s x hx; cases hx
  | cons op rest ih =>
    intro s x hx
    simp only [run, List.mem_cons] at hx
    rcases hx with rfl | hx
    · refine ⟨step_no_panic p s op, fun st hst => ?_⟩
      rcases status_only_when_asked p s op st hst with ⟨shards, rfl⟩ | ⟨req, rfl⟩
      · obtain ⟨mine, hp, _, _, hle, _⟩ := sharded_status_is_min p s shards st hst
        exact ⟨mine, hp, hle⟩
      · exact ⟨st, ((step_reports_stored_state p s (.shardStatus req) st).1 req rfl hst).1, Nat.le_refl _⟩
    · exact ih _ x hx

/-! ## Who may forget a query

The `AwaitingCompletion` state carries the identity of the waiting `complete`; without it the
history of finding F12 (create, receive inputs, `complete` (waits), `kill`, create again, old task
returns: `stale_completion_leaves_new_query`) deletes the new query's state. -/

/-- In EVERY state, a call forgets an existing query only if it is
`kill`, a `complete` that returned (result, execution error, or shard rejection), or the return of
the task of *this very query* to the `complete` waiting for it. -/
theorem removal_only_by_request (p : Pos) (s : St) (op : Op) (q : QS)
    (hq : s.entry = some q) (hn : (step p s op).1.entry = none) :
    op = .kill ∨
    (∃ sh, op = .complete sh ∧ ((step p s op).2 = .err .shardError ∨ isResult (step p s op).2 = true)) ∨
    (∃ id o, op = .taskReturns id o ∧ q = .awaitingCompletion id ∧ id ∈ s.pending) := by
  have hm := step_move p s op
  generalize step p s op = x at hm hn ⊢
  cases hm with
  | refused | dropped => cases hq.symm.trans hn
  | asked | compared | created | started | waiting | stored => cases hn
  | killed => exact Or.inl rfl
  | rejected sh => exact Or.inr (Or.inl ⟨sh, rfl, Or.inl rfl⟩)
  | completed sh o => exact Or.inr (Or.inl ⟨sh, rfl, Or.inr (by cases o <;> rfl)⟩)
  | resolved id o hmem =>
    refine Or.inr (Or.inr ⟨id, o, rfl, ?_, hmem⟩)
    split at hn
    next h => exact Option.some.inj (hq.symm.trans h)
    · cases hq.symm.trans hn

/-- History form: along any history, whenever the query present before a call is gone after it, the
call was one of the three kinds of `removal_only_by_request`. -/
theorem no_phantom_removal (p : Pos) (ops : List Op) : ∀ (s : St) (k : Nat) (q : QS),
    (finalState p s (ops.take k)).entry = some q → k < ops.length →
    (finalState p s (ops.take (k + 1))).entry = none →
    ∃ op, ops[k]? = some op ∧ (op = .kill ∨ (∃ sh, op = .complete sh) ∨
      (∃ id o, op = .taskReturns id o ∧ q = .awaitingCompletion id)) := by
  induction ops with
  | nil => intro s k q _ hk; exact absurd hk (Nat.not_lt_zero _)
  | cons op rest ih =>
    intro s k q h hk hn
    cases k with
    | zero =>
      refine ⟨op, rfl, ?_⟩
      rcases removal_only_by_request p s op q h hn with h1 | ⟨sh, h2, _⟩ | ⟨id, o, h3, h4, _⟩
      · exact Or.inl h1
      · exact Or.inr (Or.inl ⟨sh, h2⟩)
      · exact Or.inr (Or.inr ⟨id, o, h3, h4⟩)
    | succ k => exact ih (step p s op).1 k q h (Nat.lt_of_succ_lt_succ hk) hn

/-- The history of finding F12: the stale completion still returns its result to its caller, but the
new query's state survives. -/
theorem stale_completion_leaves_new_query :
    let p : Pos := ⟨0, true⟩
    let h := [Op.newQuery [.accept, .accept] [], .receiveInputs, .complete [], .kill, .newQuery [.accept, .accept] []]
    (finalState p {} h).entry = some .awaitingInputs ∧
    (step p (finalState p {} h) (.taskReturns 0 .ok)) =
      ({ entry := some .awaitingInputs, pending := [], next := 1 }, .resolved .ok) := by
  decide

end IpaVerif.C18
