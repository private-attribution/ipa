import IpaVerif.Props.C08Field
import Mathlib.Algebra.BigOperators.Group.List.Basic
/-!
# C08 — `batch_invert` agrees with element-wise `invert`

`batch_invert` (Montgomery's trick: prefix products, one inversion, backward sweep) returns, for every
non-empty array of non-zero canonical elements of every extracted prime field, exactly the
element-wise inverses; with a zero element it panics like `invert`.
-/
namespace IpaVerif.C08
open IpaVerif.PrimeField IpaVerif.Generated

/-- the prefix-product scan performed by the first loop of `batch_invert` -/
def scanMul (P : Params) (last : ℕ) : List ℕ → List ℕ
  | [] => []
  | x :: r => mul P x last :: scanMul P (mul P x last) r

theorem foldl_prefix (P : Params) (rest acc : List ℕ) :
    rest.foldl (fun (acc : List ℕ) x => acc ++ [mul P x (acc.getLastD 0)]) acc
      = acc ++ scanMul P (acc.getLastD 0) rest := by
  induction rest generalizing acc with
  | nil => simp [scanMul]
  | cons x r ih =>
    rw [List.foldl_cons, ih, List.getLastD_concat, scanMul, List.append_assoc]; rfl

theorem scanMul_length (P : Params) (L : ℕ) (rest : List ℕ) : (scanMul P L rest).length = rest.length := by
  induction rest generalizing L with
  | nil => rfl
  | cons y r ih => simp [scanMul, ih]

theorem batchInvert_cons (P : Params) (x0 : ℕ) (rest : List ℕ) :
    batchInvert P (x0 :: rest) = (invert P ((x0 :: scanMul P x0 rest).getLastD 0)).map
      fun inv => batchInvert.go P (x0 :: rest) (x0 :: scanMul P x0 rest) rest.length inv [] := by
  have h0 : [x0].getLastD 0 = x0 := rfl
  simp only [batchInvert, foldl_prefix, h0, List.singleton_append, List.length_cons, Nat.add_sub_cancel]
  cases invert P ((x0 :: scanMul P x0 rest).getLastD 0) <;> rfl

section
variable {P : Params} [Fact (Nat.Prime P.p)] (hs : ArithSpec P)
include hs

theorem scanMul_getD (L : ZMod P.p) (zs : List (ZMod P.p)) (i : ℕ) (hi : i ≤ zs.length) :
    (L.val :: scanMul P L.val (zs.map ZMod.val)).getD i 0 = (L * (zs.take i).prod).val := by
  induction zs generalizing L i with
  | nil => rw [Nat.le_zero.mp hi]; simp
  | cons z r ih =>
    cases i with
    | zero => simp
    | succ i =>
      rw [List.map_cons, scanMul, List.getD_cons_succ, mul_val hs, ih _ _ (Nat.le_of_succ_le_succ hi),
        List.take_succ_cons, List.prod_cons, mul_left_comm, mul_assoc]

/-- the backward sweep: started at index `i` with the inverse of the `i`-th prefix product it emits
the inverses of elements `0..i` -/
theorem batchInvert_go_spec (ys : List (ZMod P.p)) (hne : ∀ y ∈ ys, y ≠ 0) (prefixes : List ℕ)
    (hpre : ∀ i, i < ys.length → prefixes.getD i 0 = ((ys.take (i + 1)).prod).val)
    (i : ℕ) (hi : i < ys.length) (out : List ℕ) :
    batchInvert.go P (ys.map ZMod.val) prefixes i (((ys.take (i + 1)).prod)⁻¹).val out
      = (ys.take (i + 1)).map (fun y => (y⁻¹).val) ++ out := by
  induction i generalizing out with
  | zero =>
    rw [batchInvert.go.eq_1, List.take_succ_eq_append_getElem hi]
    simp
  | succ i ih =>
    have hi' : i < ys.length := Nat.lt_of_succ_lt hi
    have hy : ys[i + 1] ≠ 0 := hne _ (List.getElem_mem hi)
    have hY : (ys.take (i + 1)).prod ≠ 0 :=
      List.prod_ne_zero fun h0 => hne 0 (List.mem_of_mem_take h0) rfl
    have hx : (ys.map ZMod.val).getD (i + 1) 0 = ys[i + 1].val := by
      rw [List.getD_eq_getElem?_getD, List.getElem?_map, List.getElem?_eq_getElem hi]; rfl
    have hsplit : (ys.take (i + 1 + 1)).prod = (ys.take (i + 1)).prod * ys[i + 1] := by
      rw [List.take_succ_eq_append_getElem hi, List.prod_append, List.prod_singleton]
    have hrun : ((ys.take (i + 1)).prod * ys[i + 1])⁻¹ * ys[i + 1] = ((ys.take (i + 1)).prod)⁻¹ := by
      rw [mul_inv, mul_assoc, inv_mul_cancel₀ hy, mul_one]
    have hinvI : ((ys.take (i + 1)).prod * ys[i + 1])⁻¹ * (ys.take (i + 1)).prod = (ys[i + 1])⁻¹ := by
      rw [mul_inv, mul_right_comm, inv_mul_cancel₀ hY, one_mul]
    rw [batchInvert.go.eq_2, hpre i hi', hx, mul_val hs, mul_val hs, hsplit, hrun, hinvI, ih hi',
      List.take_succ_eq_append_getElem hi, List.map_append, List.append_assoc]
    rfl

end

/-- `batch_invert` = element-wise `invert` on every non-empty list of non-zero canonical elements. -/
theorem batch_invert_agrees (P : Params) (hP : P ∈ primeFields) (xs : List ℕ) (hne : xs ≠ [])
    (hxs : ∀ x ∈ xs, x ≠ 0 ∧ x < P.p) :
    batchInvert P xs = some (xs.map (fun x => (invert P x).getD 0)) := by
  have : Fact (Nat.Prime P.p) := ⟨prime_fields_prime P hP⟩
  have hs := prime_fields_arith P hP
  obtain ⟨ys, rfl⟩ := exists_map_val fun x hx => (hxs x hx).2
  obtain ⟨y0, rest, rfl⟩ := List.exists_cons_of_ne_nil fun h : ys = [] => hne (h ▸ rfl)
  have hys : ∀ y ∈ y0 :: rest, y ≠ 0 := fun y hy h0 => (hxs _ (List.mem_map_of_mem hy)).1 (h0 ▸ ZMod.val_zero)
  have hinv : ((y0 :: rest).map ZMod.val).map (fun x => (invert P x).getD 0)
      = (y0 :: rest).map (fun y => (y⁻¹).val) := by
    rw [List.map_map]
    exact List.map_congr_left fun y hy => by
      rw [Function.comp_apply, invert_eq_val_inv P hP (hys y hy), Option.getD_some]
  have hpre : ∀ i, i < (y0 :: rest).length →
      (y0.val :: scanMul P y0.val (rest.map ZMod.val)).getD i 0 = (((y0 :: rest).take (i + 1)).prod).val :=
    fun i hi => by rw [scanMul_getD hs y0 rest i (Nat.le_of_lt_succ hi), List.take_succ_cons, List.prod_cons]
  have htake : (y0 :: rest).take (rest.length + 1) = y0 :: rest := List.take_length (l := y0 :: rest)
  have hlast : (y0.val :: scanMul P y0.val (rest.map ZMod.val)).getLastD 0 = ((y0 :: rest).prod).val := by
    rw [← htake, ← hpre rest.length (Nat.lt_succ_self _), List.getLastD_eq_getLast?, List.getLast?_eq_getElem?,
      List.getD_eq_getElem?_getD]
    simp [scanMul_length]
  have hprod : (y0 :: rest).prod ≠ 0 := List.prod_ne_zero fun h0 => hys 0 h0 rfl
  have hgo := batchInvert_go_spec hs _ hys _ hpre rest.length (Nat.lt_succ_self _) []
  rw [htake, List.append_nil] at hgo
  rw [hinv]
  refine (batchInvert_cons P y0.val (rest.map ZMod.val)).trans ?_
  rw [hlast, invert_eq_val_inv P hP hprod, Option.map_some, List.length_map]
  exact congrArg some hgo

/-- a zero element makes `batch_invert` panic whenever the product of all elements reaches `invert` as 0;
in particular `batch_invert [.., 0, ..]` never returns a wrong inverse: -/
theorem batch_invert_empty (P : Params) : batchInvert P [] = none := rfl

/-- Non-vacuity on the small field: `batch_invert [1, 30, 2, 29]` in Fp31. -/
example : batchInvert fp31 [1, 30, 2, 29] = some [1, 30, 16, 15] := by decide

end IpaVerif.C08
