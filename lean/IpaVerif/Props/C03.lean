import IpaVerif.Model.Dzkp
import IpaVerif.Props.C08
import IpaVerif.Proofs.C03Indices
import IpaVerif.Proofs.C03Gate
import IpaVerif.Proofs.C03Store
/-!
# C03 — multiplication proofs accept honest batches and reject any altered one

Finite and arithmetic theorems (core Lean only). Everything is stated about the constants, tables and
the straight-line index function regenerated from the sources on every run (`IpaVerif.Generated.Dzkp`).
The polynomial/Lagrange theorems over an arbitrary field are in `IpaVerif.Props.C03Algebra`.
-/
namespace IpaVerif.C03
open IpaVerif.PrimeField IpaVerif.Generated IpaVerif.Generated.Dzkp IpaVerif.Dzkp

/-- `Σ_k u[k]·v[k]` with the field operations of `Fp61BitPrime`. -/
def rowDot (u v : List Nat) : Nat := (u.zip v).foldl (fun acc ab => fadd acc (fmul ab.1 ab.2)) 0

/-- `2·INVERSE_OF_TWO = 1`, `MINUS_ONE_HALF = −INVERSE_OF_TWO`, `MINUS_TWO = −2`, `−1/2 ≠ 1/2`, all canonical. -/
theorem dzkp_constants :
    fmul 2 inverseOfTwo = 1 ∧ minusOneHalf = neg fp61 inverseOfTwo ∧ minusTwo = neg fp61 2 ∧
    fadd minusOneHalf inverseOfTwo = 0 ∧ minusOneHalf ≠ inverseOfTwo ∧
    inverseOfTwo < fp61.p ∧ minusOneHalf < fp61.p ∧ minusTwo < fp61.p := by decide

/-- for all 64 `(a,b,c,d,e,f)`: `Σ_k U[a,c,e][k]·V[b,d,f][k] = −1/2` if
`e = ab ⊕ cd ⊕ f` and `= +1/2` otherwise. -/
theorem table_identity : ∀ a b c d e f : Bool,
    rowDot (tableURow e c a) (tableVRow f d b) =
      if e = ((a && b) ^^ (c && d) ^^ f) then minusOneHalf else inverseOfTwo := by decide +kernel

/-- the 3-bit table index is `a + 2c + 4e` (resp. `b + 2d + 4f`): least significant bit = innermost loop. -/
theorem table_layout : ∀ a c e : Bool,
    tableU[ofBit a + 2 * ofBit c + 4 * ofBit e]? = some (tableURow e c a) ∧
    tableV[ofBit a + 2 * ofBit c + 4 * ofBit e]? = some (tableVRow e c a) := by decide

/-- zero padding of a block contributes a consistent gate: index (0,0) gives `−1/2`. -/
theorem zero_padding : rowDot (tableU.getD 0 []) (tableV.getD 0 []) = minusOneHalf := by decide

/-- for every block and every position `j < 256`, each of the three
`table_indices_*` functions emits `i0[j] + 2·i1[j] + 4·i2[j]` for its triple of intermediates
(`(a,c,e)` / `(b,d,f)` as generated from the source), and emits exactly 256 indices. -/
theorem indices_correct (B : Block) (j : Nat) (hj : j < 256) :
    (tableIndicesFromRightProver B)[j]? =
      some (bitN B.xr j + 2 * bitN B.yr j + 4 * bitN ((B.xr &&& B.yr) ^^^ B.pr ^^^ B.zr) j) ∧
    (tableIndicesFromLeftProver B)[j]? = some (bitN B.yl j + 2 * bitN B.xl j + 4 * bitN B.pl j) ∧
    (tableIndicesProver B)[j]? =
      some (bitN B.xl j + 2 * bitN B.yl j + 4 * bitN ((B.xl &&& B.yr) ^^^ (B.yl &&& B.xr) ^^^ B.pr) j,
            bitN B.yr j + 2 * bitN B.xr j + 4 * bitN B.pr j) ∧
    (tableIndicesProver B).length = 256 := by
  have h1 := intermediates_indices B.xr B.yr ((B.xr &&& B.yr) ^^^ B.pr ^^^ B.zr) j hj
  have h2 := intermediates_indices B.yl B.xl B.pl j hj
  have h3 := intermediates_indices B.xl B.yl ((B.xl &&& B.yr) ^^^ (B.yl &&& B.xr) ^^^ B.pr) j hj
  have h4 := intermediates_indices B.yr B.xr B.pr j hj
  refine ⟨h1.1, h2.1, List.getElem?_zip_eq_some.2 ⟨h3.1, h4.1⟩, ?_⟩
  simp only [tableIndicesProver, triple, proverTriples, List.length_zip, h3.2, h4.2, Nat.min_self]

/-- the `e` bit computed by the prover is `ab ⊕ cd ⊕ f` position-wise, the `e′` of the left verifier is
`ac ⊕ prss ⊕ z` position-wise. -/
theorem e_bits (B : Block) (j : Nat) :
    ((B.xl &&& B.yr) ^^^ (B.yl &&& B.xr) ^^^ B.pr).testBit j =
      ((B.xl.testBit j && B.yr.testBit j) ^^ (B.yl.testBit j && B.xr.testBit j) ^^ B.pr.testBit j) ∧
    ((B.xr &&& B.yr) ^^^ B.pr ^^^ B.zr).testBit j =
      ((B.xr.testBit j && B.yr.testBit j) ^^ B.pr.testBit j ^^ B.zr.testBit j) := by
  simp only [Nat.testBit_xor, Nat.testBit_and, and_self]

/-- Single gate, every gate state, 3 helpers, 8 single-bit deviations:

* honest execution: each prover's `(u, v)` table indices equal what its left verifier (u) and right
  verifier (v) recompute from their own records, the verifiers' triple satisfies `e′ = ab ⊕ cd ⊕ f`, and
  no helper rejects;
* if helper `j` flips any one of its seven recorded bits, or the `z` it transmits, then the set of
  helpers whose check fails is exactly `predictedRejecters j f` — never empty; it contains the helper to the
  left of `j` for `x/y/prss_right` records and for the transmitted `z`; it is `{j+1}` for `prss_left` and
  `{j}` itself for its received `z_right`. -/
theorem gate_views (g : Gate) :
    (∀ i, proverMatches (views g none) i = true ∧ verifierTripleConsistent (views g none) i = true ∧
        rejects (views g none) i = false) ∧
    (∀ j f h, rejects (views g (some (j, f))) h = true ↔ h ∈ predictedRejecters j f) ∧
    (∀ j f, predictedRejecters j f ≠ []) ∧
    (∀ j f, f ∉ [Flip.pl, Flip.zr] → j.prev ∈ predictedRejecters j f) := by
  refine ⟨fun i => honest_views_accept g i, ?_, ?_, ?_⟩
  · intro j f h
    rw [rejects_eq_predicted, hid_mem_iff]
  · intro j f; cases f <;> exact List.cons_ne_nil _ _
  · intro j f hf
    cases f
    case pl | zr => exact absurd (by decide) hf
    all_goals exact List.mem_cons_self


/-- for each of the seven stored intermediates, every previous store content, every
record id and every global bit position `n`:

* a segment of width `1 ≤ w < 256` is written at stride `L = next_power_of_two(w)`: afterwards bit `n` is the
  segment's bit `n − L·id` if `L·id ≤ n < L·id + w` and is unchanged otherwise; the segment never crosses a
  256-bit block boundary;
* a segment of width `w = 256·m` occupies exactly bits `[w·id, w·id + w)` (whole blocks), everything else is
  unchanged (bits of freshly allocated blocks are zero);
* ranges of different record ids are disjoint (stride ≥ width), so pushes in any order never overwrite one
  another. Out-of-range record ids panic in the model (`Store.insert`) as in the code (compared by `c03_store`). -/
theorem segment_packing :
    (∀ p ∈ fieldPairs, ∀ (vec : List Block) (id : Nat) (s : IpaVerif.DzkpStore.Segment) (n : Nat),
      s.width < 256 → 1 ≤ s.width →
      IpaVerif.DzkpStore.storeBit (IpaVerif.DzkpStore.insertSmall vec id s) p.1 n =
        if IpaVerif.DzkpStore.nextPow2 s.width * id ≤ n ∧ n < IpaVerif.DzkpStore.nextPow2 s.width * id + s.width
        then (p.2 s).testBit (n - IpaVerif.DzkpStore.nextPow2 s.width * id)
        else IpaVerif.DzkpStore.storeBit vec p.1 n) ∧
    (∀ w id : Nat, w < 256 → 1 ≤ w → (IpaVerif.DzkpStore.nextPow2 w * id) % 256 + w ≤ 256 ∧ w ≤ IpaVerif.DzkpStore.nextPow2 w) ∧
    (∀ p ∈ fieldPairs, ∀ (vec : List Block) (id m : Nat) (s : IpaVerif.DzkpStore.Segment) (n : Nat),
      s.width = 256 * m →
      IpaVerif.DzkpStore.storeBit (IpaVerif.DzkpStore.insertLarge vec id s) p.1 n =
        if s.width * id ≤ n ∧ n < s.width * id + s.width then (p.2 s).testBit (n - s.width * id)
        else IpaVerif.DzkpStore.storeBit vec p.1 n) ∧
    (∀ L w i j n : Nat, w ≤ L → i ≠ j → (L * i ≤ n ∧ n < L * i + w) → ¬ (L * j ≤ n ∧ n < L * j + w)) := by
  refine ⟨?_, ?_, ?_, ?_⟩
  · intro p hp vec id s n hw h1
    exact insertSmall_bits p.1 p.2 (fieldPairs_ok p hp).1 vec id s hw n
  · intro w id hw h1
    exact ⟨no_crossing w id hw, le_nextPow2 w⟩
  · intro p hp vec id m s n hw
    exact insertLarge_bits p.1 p.2 (fieldPairs_ok p hp).1 (fieldPairs_ok p hp).2 vec id m s hw n
  · intro L w i j n hL hij hi hj
    rcases stride_apart L w i j hL hij with h | h
    · exact Nat.lt_irrefl n (Nat.lt_of_lt_of_le hi.2 (Nat.le_trans h hj.1))
    · exact Nat.lt_irrefl n (Nat.lt_of_lt_of_le hj.2 (Nat.le_trans h hi.1))

/-- a consistent gate contributes `−1/2`, an inconsistent one `+1/2` (`table_identity`). -/
def gateTerm (c : Bool) : Nat := if c then minusOneHalf else inverseOfTwo
def sumTerms (flags : List Bool) : Nat := flags.foldl (fun acc c => fadd acc (gateTerm c)) 0
/-- `sum_of_uv = truncate_from(m) * MINUS_ONE_HALF` of `Batch::validate`. -/
def expectedSum (m : Nat) : Nat := fmul (truncateFrom fp61 m) minusOneHalf

theorem foldl_gateTerm_eq (flags : List Bool) : ∀ acc, acc < fp61.p →
    flags.foldl (fun acc c => fadd acc (gateTerm c)) acc
      = (acc + minusOneHalf * flags.length + flags.count false) % fp61.p := by
  -- each flag adds `−1/2`, and one more when it is `false`, in the shape of `List.count_cons`
  have step : ∀ c, gateTerm c = minusOneHalf + if c == false then 1 else 0 := by decide
  induction flags with
  | nil => intro acc h; exact (Nat.mod_eq_of_lt h).symm
  | cons c r ih =>
    intro acc h
    have hs : fadd acc (gateTerm c) = (acc + gateTerm c) % fp61.p :=
      IpaVerif.C08.add_spec_fp61 acc (gateTerm c) (Nat.lt_trans h (by decide)) (by cases c <;> decide)
    have hlt : fadd acc (gateTerm c) < fp61.p := by rw [hs]; exact Nat.mod_lt _ (by decide)
    rw [List.foldl_cons, ih _ hlt, hs, Nat.add_assoc, Nat.mod_add_mod, step c, List.length_cons, Nat.mul_succ,
      List.count_cons]
    ac_rfl

/-- adding fewer than `p` to `a` changes the residue mod `p` unless nothing is added. -/
theorem add_mod_eq_self_iff (a c p : Nat) (hc : c < p) : (a + c) % p = a % p ↔ c = 0 := by
  constructor
  · intro h
    have := Nat.sub_mod_eq_zero_of_mod_eq h
    rwa [Nat.add_sub_cancel_left, Nat.mod_eq_of_lt hc] at this
  · intro h; rw [h, Nat.add_zero]

/-- for every number `m < p` of (padded) multiplications, with any pattern of
consistent / inconsistent gates, the total `Σ_j ⟨u_j, v_j⟩` equals the verifier's expected
`m · (−1/2)` iff every gate is consistent. -/
theorem sum_iff_all_consistent (flags : List Bool) (h : flags.length < fp61.p) :
    sumTerms flags = expectedSum flags.length ↔ flags.all id = true := by
  have h64 : flags.length < 2 ^ 64 := Nat.lt_trans h (by decide)
  have h1 := foldl_gateTerm_eq flags 0 (by decide)
  have h2 : expectedSum flags.length = (minusOneHalf * flags.length) % fp61.p := by
    unfold expectedSum truncateFrom
    rw [IpaVerif.C08.reduce_eq_mod_fp61 _ (Nat.lt_trans h64 (by decide)), Nat.mod_eq_of_lt h, Nat.mul_comm]
    exact IpaVerif.C08.mul_spec_fp61 _ _ h64 (by decide)
  have h3 : flags.all id = true ↔ flags.count false = 0 := by
    rw [List.count_eq_zero]; simp
  -- the sum is `m · (−1/2)` plus the number of inconsistent gates, which is less than `p`
  unfold sumTerms
  rw [h1, h2, h3, Nat.zero_add]
  exact add_mod_eq_self_iff _ _ _ (Nat.lt_of_le_of_lt List.count_le_length h)

/-- non-vacuity: a batch with one inconsistent gate among three. -/
example : sumTerms [true, false, true] ≠ expectedSum 3 ∧ sumTerms [true, true, true] = expectedSum 3 := by decide

theorem iters_bound : ∀ fuel k n, n ≤ 3 * 4 ^ k → k + 1 ≤ fuel →
    ∃ r, recursionIters 4 fuel n = some r ∧ 1 ≤ r ∧ r ≤ k + 1 := by
  intro fuel
  induction fuel with
  | zero => intro k n _ h; omega
  | succ f ih =>
    intro k n hn hf
    unfold recursionIters
    by_cases h4 : n < 4
    · exact ⟨1, if_pos h4, Nat.le_refl 1, Nat.le_add_left 1 k⟩
    · cases k with
      | zero => omega
      | succ k' =>
        rw [Nat.pow_succ, ← Nat.mul_assoc, Nat.mul_comm] at hn
        have hn' : (n + 4 - 1) / 4 ≤ 3 * 4 ^ k' :=
          (Nat.div_le_iff_le_mul_add_pred (by decide)).2 (Nat.add_le_add_right hn 3)
        obtain ⟨r, hr, h1, h2⟩ := ih k' _ hn' (Nat.le_of_succ_le_succ hf)
        exact ⟨r + 1, by rw [if_neg h4, hr]; rfl, Nat.le_add_left 1 r, Nat.succ_le_succ h2⟩

theorem maxUvValues_eq : maxUvValues = (compressedL - 1) * compressedL ^ (maxProofRecursion - 2) := by decide

/-- whenever `uv_values.len() ≤ max_uv_values` (the code's assertion), the loop
`while !did_set_masks` terminates after `r` iterations with `1 ≤ r ≤ MAX_PROOF_RECURSION − 1`; hence the
number of challenges `r + 1` satisfies the verifier's `MIN_PROOF_RECURSION ≤ · ≤ MAX_PROOF_RECURSION`
assertion, and at most `PRSS_RECORDS_PER_BATCH` PRSS indices are drawn (first proof, two masks, `r` proofs). -/
theorem recursion_bound (n : Nat) (h : n ≤ maxUvValues) :
    ∃ r, recursionIters compressedL maxProofRecursion n = some r ∧ 1 ≤ r ∧ r ≤ maxProofRecursion - 1 ∧
      minProofRecursion ≤ r + 1 ∧ r + 1 ≤ maxProofRecursion ∧
      firstP + 2 + r * compressedP ≤ prssRecordsPerBatch := by
  obtain ⟨r, hr, h1, h2⟩ := iters_bound maxProofRecursion (maxProofRecursion - 2) n (maxUvValues_eq ▸ h) (by decide)
  refine ⟨r, hr, h1, h2, Nat.succ_le_succ h1, Nat.succ_le_succ h2, ?_⟩
  rw [Nat.add_right_comm]
  exact Nat.add_le_add_right (Nat.add_le_add_left (Nat.mul_le_mul_right _ h2) _) _

/-- the corner cases: a single 256-gate block (`256 = 4^4`, the two-extra-iterations corner) and the
largest admissible batch. -/
example : recursionIters compressedL maxProofRecursion 256 = some 5 ∧
    recursionIters compressedL maxProofRecursion maxUvValues = some 13 ∧
    recursionIters compressedL maxProofRecursion (maxUvValues + 1) = some 14 := by decide

theorem prev_pow2_le (t : Nat) (h : 1 ≤ t) : nonZeroPrevPowerOfTwo t ≤ t := by
  have h0 : t ≠ 0 := Nat.ne_of_gt h
  unfold nonZeroPrevPowerOfTwo bitLen
  rw [if_neg h0, Nat.max_eq_right (Nat.le_add_left 1 _), Nat.add_sub_cancel]
  exact Nat.log2_self_le h0

/-- `batch_sizes_fit` (partial: the *nominal* number of multiplications per record that each formula
divides by; the exact gate counts of the circuits are not modelled).
For both extracted `TARGET_PROOF_SIZE`s: the target itself is within `max_uv_values`; and for each of the
three chunk formulas, chunk × nominal multiplications per record ≤ `TARGET_PROOF_SIZE` whenever the
`max(2, ·)` floor does not bind. Full statement: for every protocol using a DZKP validator, the number of
256-bit-padded multiplications pushed per batch is ≤ `max_uv_values`. -/
theorem batch_sizes_fit_partial :
    targetProofSizeProd ≤ maxUvValues ∧ targetProofSizeTest ≤ maxUvValues ∧
    (∀ T, 2 ≤ T / convChunk / convGates →
      nonZeroPrevPowerOfTwo (max 2 (T / convChunk / convGates)) * convChunk * convGates ≤ T) ∧
    (∀ T width bits, 2 ≤ T / width / (bits + 1) →
      nonZeroPrevPowerOfTwo (max 2 (T / width / (bits + 1))) * width * (bits + 1) ≤ T) ∧
    (∀ T bk v, 1 ≤ T / (bk + v) → nonZeroPrevPowerOfTwo (T / (bk + v)) * (bk + v) ≤ T) := by
  have key : ∀ T a b, 2 ≤ T / a / b → nonZeroPrevPowerOfTwo (max 2 (T / a / b)) * a * b ≤ T := by
    intro T a b h
    rw [Nat.max_eq_right h]
    calc nonZeroPrevPowerOfTwo (T / a / b) * a * b ≤ T / a / b * a * b :=
          Nat.mul_le_mul_right _ (Nat.mul_le_mul_right _ (prev_pow2_le _ (Nat.le_of_succ_le h)))
      _ = T / a / b * b * a := Nat.mul_right_comm _ _ _
      _ ≤ T / a * a := Nat.mul_le_mul_right _ (Nat.div_mul_le_self _ _)
      _ ≤ T := Nat.div_mul_le_self _ _
  refine ⟨by decide, by decide, fun T h => key T _ _ h, fun T w b h => key T _ _ h, ?_⟩
  intro T bk v h
  exact Nat.le_trans (Nat.mul_le_mul_right _ (prev_pow2_le _ h)) (Nat.div_mul_le_self _ _)

/-- the production conversion chunk: 256 records × 256 lanes × 512 gates = 33 554 432 ≤ 50 000 000. -/
example : nonZeroPrevPowerOfTwo (max 2 (targetProofSizeProd / convChunk / convGates)) = 256 ∧
    2 ≤ targetProofSizeProd / convChunk / convGates := by decide

theorem denominators_of_check (n : Nat) (inv : List Nat)
    (h : ((denominators n).any fun d => d.length == n &&
      (d.zip inv).all fun (a, b) => a < fp61.p && a * b % fp61.p == 1) = true) :
    ∃ d, denominators n = some d ∧ d.length = n ∧
      ((d.zip inv).all fun (a, b) => a < fp61.p && a * b % fp61.p == 1) = true := by
  obtain ⟨d, hd, hp⟩ := (Option.any_eq_true _ _).1 h
  rw [Bool.and_eq_true, beq_iff_eq] at hp
  exact ⟨d, hd, hp⟩

/-- the model's (= the code's) Lagrange denominators for N = 4 and N = 7 are the inverses of
`Π_{j≠i} (i − j)` = −6, 2, −2, 6 resp. 720, −120, 48, −36, 48, −120, 720. -/
theorem lagrange_denominators :
    (∃ d, denominators 4 = some d ∧ d.length = 4 ∧
      ((d.zip [fp61.p - 6, 2, fp61.p - 2, 6]).all fun (a, b) => a < fp61.p && a * b % fp61.p == 1) = true) ∧
    (∃ d, denominators 7 = some d ∧ d.length = 7 ∧
      ((d.zip [720, fp61.p - 120, 48, fp61.p - 36, 48, fp61.p - 120, 720]).all
        fun (a, b) => a < fp61.p && a * b % fp61.p == 1) = true) :=
  ⟨denominators_of_check 4 _ (by decide +kernel), denominators_of_check 7 _ (by decide +kernel)⟩

end IpaVerif.C03
