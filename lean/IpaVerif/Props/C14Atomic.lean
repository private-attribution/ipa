import IpaVerif.Proofs.SenderAtomicInv
/-!
# C14 (atomic level) — `OrderingSender` never loses a wake-up under ANY interleaving of the
shared-memory accesses of concurrently running polls

Model: `Model/OrderingSenderAtomic.lean` (one action = one access to `next`, to a `WaitingShard`
under its mutex, or one state-mutex critical section; program order of the actions transcribed from
`next_op` / `Send::poll` / `Close::poll` / `take_next` and checked by the translator items
`buffers.atomic.*`).  Assumption (by inspection, see the model's header and props/C14.json): the
Rust accesses (`load(Acquire)`, `fetch_add(AcqRel)`, `Mutex`) behave as atomic steps of a
sequentially consistent interleaving.
-/
namespace IpaVerif.C14Atomic
open IpaVerif.OrderingSender IpaVerif.OrderingSenderAtomic

/-- "A wake-up for task `t` is in flight": the `Send` with the preceding index has incremented
`next` and has not yet executed its `waiting.wake(i + 1)`. -/
def PendingWake (c : Cfg) (a : AState) (t : Task) : Prop :=
  ∃ u, c.isClose u = false ∧ a.pc u = .incd ∧ c.idx u + 1 = c.idx t

/-- **No lost wake-up, for every interleaving of atomic actions** (any number of tasks, any
scheduling, spurious polls, the reader's `wake(next)` racing with the senders).  In every reachable
state, for every task `t` parked for its index `i` (its `waiting.add` was accepted, its poll returned
`Pending`) that has not been woken since:
* its turn has not passed (`next ≤ i`);
* its waker is registered in shard `(i >> 6) % 8`, the shard is sorted (so `wake(i)` finds it);
* if its turn HAS come (`next = i`) the wake-up is still in flight (`PendingWake`).
Hence "parked ∧ `next = i` ∧ not woken ∧ no wake-up in flight" is unreachable. -/
theorem no_lost_wakeup_atomic {c : Cfg} (wf : WF c) {cap ws rs : Nat} {s0 : State}
    (h0 : State.new cap ws rs = .ok s0) {a : AState} (hr : Reach c s0 a) (t : Task)
    (hpark : a.pc t = .waitTurn) (hnot : a.woken t = false) :
    a.s.next ≤ c.idx t ∧
    ⟨c.idx t, t⟩ ∈ (a.s.shards (shardIdx (c.idx t))).wakers ∧
    (a.s.shards (shardIdx (c.idx t))).wakers.Pairwise (fun x y => x.i < y.i) ∧
    (a.s.next = c.idx t → PendingWake c a t) := by
  have h := Inv.reach wf h0 hr
  exact ⟨h.next_le_idx wf (by rw [hpark]; nofun) (by rw [hpark]; nofun) (by rw [hpark]; nofun),
    h.parkedIn t hpark hnot, h.sorted _, fun heq => h.parkedPending t hpark hnot (Nat.le_of_eq heq.symm)⟩

/-- The bad state itself is unreachable. -/
theorem parked_at_turn_unreachable {c : Cfg} (wf : WF c) {cap ws rs : Nat} {s0 : State}
    (h0 : State.new cap ws rs = .ok s0) {a : AState} (hr : Reach c s0 a) (t : Task) :
    ¬ (a.pc t = .waitTurn ∧ a.woken t = false ∧ a.s.next = c.idx t ∧ ¬ PendingWake c a t) := by
  rintro ⟨h1, h2, h3, h4⟩
  exact h4 ((no_lost_wakeup_atomic wf h0 hr t h1 h2).2.2.2 h3)

/-- The wake-up in flight is delivered by its very next action: when the `Send` with index `i − 1`
executes `waiting.wake(i)`, a task parked (and not yet woken) for `i` is marked woken. -/
theorem pending_wake_delivers {c : Cfg} (wf : WF c) {cap ws rs : Nat} {s0 : State}
    (h0 : State.new cap ws rs = .ok s0) {a a' : AState} (hr : Reach c s0 a) (t u : Task) {e : Ev}
    (hpark : a.pc t = .waitTurn) (hu : c.idx u + 1 = c.idx t)
    (hstep : astep c a (.wake u) = some (a', e)) : a'.woken t = true := by
  have h := Inv.reach wf h0 hr
  obtain ⟨hp, _, _, _, hwk⟩ := doWake_frame hstep
  rw [hwk]
  cases hw : a.woken t with
  | true => exact mark_of_true hw
  | false =>
    have hin := h.parkedIn t hpark hw
    rw [← hu] at hin
    exact mark_of_mem ((waitingWake_spec a.s (c.idx u + 1) h.shardsOk (h.past u (Or.inl hp))).2.2 t hin)

/-- **`woken_at` never decreases**, whatever action is taken in whatever state (no invariant
needed).  The proof goes through `doWake_frame`/`doRWake_frame`, which rewrite with
`shard_wake_matches_source`, i.e. through the `max` in the definition *generated from the source*
(`Generated.SenderAtomic.wokenAtAfterWake`). -/
theorem woken_at_monotone {c : Cfg} {a a' : AState} {act : Act} {e : Ev}
    (hstep : astep c a act = some (a', e)) (k : Nat) :
    (a.s.shards k).wokenAt ≤ (a'.s.shards k).wokenAt := by
  cases act with
  | load t => obtain ⟨_, _, hs, _⟩ := doLoad_frame hstep; rw [hs]; exact Nat.le_refl _
  | panicTwice t => obtain ⟨_, hs, _⟩ := doPanicTwice_frame hstep; rw [hs]; exact Nat.le_refl _
  | cs t => obtain ⟨_, _, _, hs, _⟩ := doCs_frame hstep; rw [hs]; exact Nat.le_refl _
  | add t =>
    obtain ⟨cu, _, _, _, _, hcase⟩ := doAdd_frame hstep
    rcases hcase with ⟨sh, hadd, hs, _⟩ | ⟨_, hs, _⟩
    · rw [hs]; simp only []; split
      · rename_i hk; subst hk
        unfold Shard.add at hadd
        split at hadd
        · cases hadd
        · cases hadd; exact Nat.le_refl _
      · exact Nat.le_refl _
    · rw [hs]; exact Nat.le_refl _
  | inc t => obtain ⟨_, hs, _⟩ := doInc_frame hstep; rw [hs]; exact Nat.le_refl _
  | wake t => obtain ⟨_, hs, _⟩ := doWake_frame hstep; rw [hs]; exact waitingWake_wokenAt_le _ _ k
  | rTake => obtain ⟨_, _, hs, _⟩ := doRTake_frame hstep; rw [hs]; exact Nat.le_refl _
  | rLoad => obtain ⟨_, _, hs, _⟩ := doRLoad_frame hstep; rw [hs]; exact Nat.le_refl _
  | rWake => obtain ⟨_, _, _, hs, _⟩ := doRWake_frame hstep; rw [hs]; exact waitingWake_wokenAt_le _ _ k

/-- `woken_at ≤ next` in every shard of every reachable state (`waiting.wake(i + 1)` comes after
`next.fetch_add`; the reader wakes at a value it loaded). -/
theorem woken_at_le_next {c : Cfg} (wf : WF c) {cap ws rs : Nat} {s0 : State}
    (h0 : State.new cap ws rs = .ok s0) {a : AState} (hr : Reach c s0 a) (k : Nat) :
    (a.s.shards k).wokenAt ≤ a.s.next :=
  (Inv.reach wf h0 hr).wokenLe k

/-- The index order is kept by every interleaving: the critical section is entered only by the task
whose index equals `next`, so no task ever observes `curr > i` (no "twice" panic) and the
`debug_assert_eq!(i, curr)` after `fetch_add` cannot fail. -/
theorem turn_is_exclusive {c : Cfg} (wf : WF c) {cap ws rs : Nat} {s0 : State}
    (h0 : State.new cap ws rs = .ok s0) {a : AState} (hr : Reach c s0 a) (t : Task) :
    (a.pc t = .wrote → c.idx t = a.s.next) ∧ (∀ cu, a.pc t = .loaded cu → cu ≤ c.idx t) := by
  have h := Inv.reach wf h0 hr
  exact ⟨h.wrote t, fun cu hp => Nat.le_trans (h.ldLe t cu hp)
    (h.next_le_idx wf (by rw [hp]; nofun) (by rw [hp]; nofun) (by rw [hp]; nofun))⟩

theorem tasks_cons {x : Act} {l : List Act} {o : Option Task} (hx : x.task = o)
    (hl : ∀ y ∈ l, y.task = o) : ∀ y ∈ x :: l, y.task = o :=
  List.forall_mem_cons.mpr ⟨hx, hl⟩

def pollOp (c : Cfg) (t : Task) : Op :=
  if c.isClose t then .pollClose t (c.idx t) else .pollSend t (c.idx t) (c.msg t)

theorem load_ok {c : Cfg} {a : AState} {t : Task} (hw : c.writer t = true) (hp : (a.pc t).canLoad) :
    ∃ r, astep c a (.load t) = some r ∧ r.2.woken = [] ∧ r.1.s = a.s ∧
      r.1.pc t = .loaded a.s.next ∧ r.1.rpc = a.rpc := by
  cases hq : a.pc t <;> rw [hq] at hp <;> first | exact hp.elim | simp [astep, doLoad, hw, hq]

def PollOutcome (c : Cfg) (a1 : AState) (t : Task) (acts : List Act) : Prop :=
  match OrderingSender.step a1.s (pollOp c t), runActs c a1 acts with
  | .ok (s', o), some (a', w) => w = o.woken ∧ a'.s = s' ∧ (o.res = .ready → a'.pc t = .done) ∧
      (o.res = .pending → a'.pc t = .waitTurn ∨ a'.pc t = .waitSpace)
  | .error e, some (a', _) => if e = "spin" then a'.pc t = .polling ∧ a'.s = a1.s else a'.pc t = .panicked
  | _, none => False

/-- After the load, the remaining actions of the poll mirror the branches of `OrderingSender.step`:
`panicTwice` for a used index, `add` for a future one, and at the task's turn the critical section
`cs`, followed by `inc` (and `wake` for a `Send`) when it returned `Ready`. -/
theorem after_load {c : Cfg} {a1 : AState} {t : Task} (hp : a1.pc t = .loaded a1.s.next)
    (hl : a1.rpc.holdsLock = false) :
    ∃ acts, (∀ x ∈ acts, x.task = some t) ∧ PollOutcome c a1 t acts := by
  unfold PollOutcome
  by_cases h1 : a1.s.next > c.idx t
  · have hst : OrderingSender.step a1.s (pollOp c t) = .error "attempt to write/close at index" := by
      unfold pollOp; split <;> rw [OrderingSender.step, if_pos h1]
    rw [hst]
    refine ⟨[.panicTwice t], List.forall_mem_singleton.mpr rfl, ?_⟩
    simp [runActs, astep, doPanicTwice, hp, h1]
  by_cases h2 : a1.s.next = c.idx t
  · unfold pollOp
    by_cases hc : c.isClose t = true
    · rw [if_pos hc]
      rw [OrderingSender.step, if_neg h1, if_pos h2, CircularBuf.Buf.close]
      cases h4 : a1.s.buf.closed
      · refine ⟨[.cs t, .inc t], tasks_cons rfl (List.forall_mem_singleton.mpr rfl), ?_⟩
        simp [runActs, astep, doCs, hp, h2, hl, hc, csClose, CircularBuf.Buf.close, h4, doInc]
      · refine ⟨[.cs t], List.forall_mem_singleton.mpr rfl, ?_⟩
        simp [runActs, astep, doCs, hp, h2, hl, hc, csClose, CircularBuf.Buf.close, h4]
    · have hc' : c.isClose t = false := by simpa using hc
      rw [if_neg hc]
      rw [OrderingSender.step, if_neg h1, if_pos h2]
      by_cases h4 : a1.s.buf.closed = true
      · rw [if_pos h4]
        refine ⟨[.cs t], List.forall_mem_singleton.mpr rfl, ?_⟩
        simp [runActs, astep, doCs, hp, h2, hl, hc', csSend, h4]
      · rw [if_neg h4]
        by_cases h5 : (!a1.s.buf.canWrite) = true
        · rw [if_pos h5]
          refine ⟨[.cs t], List.forall_mem_singleton.mpr rfl, ?_⟩
          simp [runActs, astep, doCs, hp, h2, hl, hc', csSend, h4, h5]
        · rw [if_neg h5]
          cases hwm : a1.s.buf.writeMsg (c.msg t) with
          | error e =>
            have : e ≠ "spin" := by
              rintro rfl
              exact absurd (CircularBuf.writeMsg_error hwm) (by simp)
            refine ⟨[.cs t], List.forall_mem_singleton.mpr rfl, ?_⟩
            simp [runActs, astep, doCs, hp, h2, hl, hc', csSend, h4, h5, hwm, this]
          | ok b' =>
            simp only []
            refine ⟨[.cs t, .inc t, .wake t],
              tasks_cons rfl (tasks_cons rfl (List.forall_mem_singleton.mpr rfl)), ?_⟩
            cases h6 : b'.canRead <;>
              simp [runActs, astep, doCs, hp, h2, hl, hc', csSend, h4, h5, hwm, h6, doInc, doWake, waitingWake_eq]
  · have h3 : a1.s.next < c.idx t := by omega
    have hst : OrderingSender.step a1.s (pollOp c t) =
        match a1.s.waitingAdd (c.idx t) t with
        | .ok s' => .ok (s', ⟨.pending, []⟩)
        | .error e => .error e := by
      unfold pollOp; split <;> rw [OrderingSender.step, if_neg h1, if_neg h2] <;> rfl
    rw [hst]
    unfold State.waitingAdd
    refine ⟨[.add t], List.forall_mem_singleton.mpr rfl, ?_⟩
    cases hadd : (a1.s.shards (shardIdx (c.idx t))).add a1.s.next (c.idx t) t <;>
      simp [runActs, astep, doAdd, hp, h3, OrderingSenderAtomic.waitingAdd, shard_add_matches_source, hadd]

/-- **Runs in which the actions of a poll are contiguous behave as the poll-level model.**  From any
state in which task `t` is not inside a poll (and the reader is not inside its critical section),
the action sequence of one `Send::poll` / `Close::poll` — `load`, then `cs`,`inc`(,`wake`) or `add`
or the panic — executed without interleaving produces exactly the shared state `s'`, the result and
the list of woken tasks of `OrderingSender.step` (the model the suites `c14_sender` tie to the real
code at poll granularity).  The poll-level outcome `spin` (a rejected `add`) corresponds to the task
being back at the `load` with the shared state unchanged. -/
theorem refines_poll_level {c : Cfg} {a : AState} {t : Task} (hw : c.writer t = true)
    (hp : (a.pc t).canLoad) (hl : a.rpc.holdsLock = false) :
    ∃ acts, (∀ x ∈ acts, x.task = some t) ∧ acts.head? = some (.load t) ∧ PollOutcome c a t acts := by
  obtain ⟨r, hr, hwk, hs, hpc, hrp⟩ := load_ok hw hp
  obtain ⟨acts, hall, hout⟩ := after_load (c := c) (a1 := r.1) (t := t) (by rw [hpc, hs])
    (by rw [hrp]; exact hl)
  refine ⟨.load t :: acts, tasks_cons rfl hall, rfl, ?_⟩
  · unfold PollOutcome at hout ⊢
    rw [hs] at hout
    simp only [runActs, hr]
    cases hrun : runActs c r.1 acts with
    | none =>
      rw [hrun] at hout
      cases hst : OrderingSender.step a.s (pollOp c t) <;> rw [hst] at hout <;> exact hout.elim
    | some q =>
      rw [hrun] at hout
      obtain ⟨a', w⟩ := q
      simp only [hwk, List.nil_append]
      exact hout

@[simp] theorem holdsLock_idle : RPc.idle.holdsLock = false := rfl
@[simp] theorem holdsLock_finished : RPc.finished.holdsLock = false := rfl

/-- The same for the stream: `take_next` = `rTake` (+ `rLoad`, `rWake` when a chunk was taken). -/
theorem refines_poll_level_take {c : Cfg} {a : AState} (hl : a.rpc.holdsLock = false) :
    ∃ acts, (∀ x ∈ acts, x.task = none) ∧
      match OrderingSender.step a.s (.pollTake c.reader), runActs c a acts with
      | .ok (s', o), some (a', w) => w = o.woken ∧ a'.s = s' ∧ a'.rpc.holdsLock = false ∧
          (o.res = .finished ↔ a'.rpc = .finished)
      | _, _ => False := by
  rw [OrderingSender.step]
  by_cases hcr : a.s.buf.canRead = true
  · rw [if_pos hcr]
    refine ⟨[.rTake, .rLoad, .rWake],
      tasks_cons rfl (tasks_cons rfl (List.forall_mem_singleton.mpr rfl)), ?_⟩
    by_cases hcw : a.s.buf.canWrite = true <;>
      simp [runActs, astep, doRTake, hl, hcr, hcw, doRLoad, doRWake, waitingWake_eq]
  · rw [if_neg hcr]
    refine ⟨[.rTake], List.forall_mem_singleton.mpr rfl, ?_⟩
    by_cases hcl : a.s.buf.closed = true <;>
      simp [runActs, astep, doRTake, hl, hcr, hcl]

/-- Three `Send`s with indices 0, 1, 2 (tasks 0, 1, 2), a `Close` at 3 (task 3), the stream is task 9. -/
def exCfg : Cfg :=
  { writer := fun t => decide (t < 4), isClose := fun t => t == 3, idx := fun t => t,
    msg := fun _ => [7], reader := 9 }

example : WF exCfg := by
  refine ⟨?_, ?_, ?_⟩
  · intro t u _ _ h; exact h
  · intro t u ht _ hc hne
    simp [exCfg] at ht hc ⊢
    subst hc
    exact Nat.lt_of_le_of_ne (Nat.le_of_lt_succ ht) hne
  · decide

/-- A schedule on which `woken_at = i` (without the `max`) would accept a stale `add`: T1 = send(0) stops between
`fetch_add` and `wake(1)`; T3 = send(2) stops after loading `next = 1`; T2 = send(1) runs a whole
poll (`wake(2)`); T1's late `wake(1)`; T3's `add(curr = 1, i = 2)` — in the model it is REJECTED
(`woken_at = max(2, 1) = 2 > 1`) and T3 is back at the `load`. -/
def exSchedule : List Act :=
  [.load 0, .cs 0, .inc 0, .load 1, .load 2, .cs 1, .inc 1, .wake 1, .wake 0, .add 2]

example : ∃ s0, State.new 8 1 1 = .ok s0 ∧
    (runActs exCfg (AState.init s0) exSchedule).map
      (fun r => (r.1.pc 2, r.1.s.next, (r.1.s.shards 0).wokenAt)) = some (.polling, 2, 2) :=
  ⟨_, rfl, by decide⟩

end IpaVerif.C14Atomic
