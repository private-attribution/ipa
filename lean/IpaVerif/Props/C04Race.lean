import IpaVerif.Proofs.C04Run
import IpaVerif.Model.MacAtomic
import Mathlib.Algebra.BigOperators.Group.List.Basic
/-!
# C04 — "honest executions always validate" when the records of a batch accumulate CONCURRENTLY

`Upgraded::accumulate_macs` updates the running MACs `(u, w)` of the record's batch under ONE acquisition of the batcher
mutex (`Model/MacAtomic.lean`, tied to the sources by `Generated/MacAtomic.lean`). The theorems hold for every number of
calls, all contributions and EVERY interleaving of the calls on each helper; the `split_*` theorems are about the
read-modify-write variant `splitStep` (fetch and store under separate lock acquisitions), which the suite `c04_race`
exercises with real OS threads.
-/
namespace IpaVerif.C04Race
open IpaVerif.MacAtomic IpaVerif.Sharing IpaVerif.Mac IpaVerif.Generated.Mac IpaVerif.C04

variable {R : Type} [CommRing R]

/-- `l[t]`, `0` past the end: call `t`'s contribution when contributions are given as a list -/
def at0 (l : List R) (t : Nat) : R := l.getD t 0

structure Inv (du dw : Nat → R) (u0 w0 : R) (s : State R) : Prop where
  nodup : s.done.Nodup
  u_eq : s.u = u0 + (s.done.map du).sum
  w_eq : s.w = w0 + (s.done.map dw).sum

theorem inv_step {du dw : Nat → R} {u0 w0 : R} {s : State R} (h : Inv du dw u0 w0 s) (t : Nat) :
    Inv du dw u0 w0 (atomicStep (· + ·) du dw s t) := by
  unfold atomicStep
  split
  · exact h
  · next hd =>
    refine ⟨List.nodup_cons.mpr ⟨by simpa using hd, h.nodup⟩, ?_, ?_⟩
    · simp only [List.map_cons, List.sum_cons, h.u_eq]; ring
    · simp only [List.map_cons, List.sum_cons, h.w_eq]; ring

theorem inv_init (du dw : Nat → R) (u0 w0 : R) : Inv du dw u0 w0 (init u0 w0) :=
  ⟨List.nodup_nil, (add_zero u0).symm, (add_zero w0).symm⟩

theorem inv_run {du dw : Nat → R} {u0 w0 : R} (sched : List Nat) {s : State R} (h : Inv du dw u0 w0 s) :
    Inv du dw u0 w0 (run (atomicStep (· + ·) du dw) s sched) := by
  induction sched generalizing s with
  | nil => exact h
  | cons t rest ih => exact ih (inv_step h t)

theorem atomicStep_done (du dw : Nat → R) (s : State R) (a t : Nat) :
    t ∈ (atomicStep (· + ·) du dw s a).done ↔ t = a ∨ t ∈ s.done := by
  unfold atomicStep
  split
  · next hd => exact ⟨Or.inr, fun h => h.elim (fun e => e ▸ by simpa using hd) id⟩
  · exact List.mem_cons

/-- a call returns within its first scheduling slot (it never waits for another call), and only scheduled calls return -/
theorem done_iff (du dw : Nat → R) (sched : List Nat) : ∀ (s : State R) (t : Nat),
    t ∈ (run (atomicStep (· + ·) du dw) s sched).done ↔ t ∈ sched ∨ t ∈ s.done := by
  induction sched with
  | nil => exact fun s t => ⟨Or.inr, fun h => h.elim (fun h => absurd h List.not_mem_nil) id⟩
  | cons a rest ih =>
    intro s t
    rw [MacAtomic.run, List.foldl_cons, ← MacAtomic.run, ih, atomicStep_done, List.mem_cons, or_left_comm, or_assoc]

theorem sum_range_at0 (l : List R) : ((List.range l.length).map (at0 l)).sum = l.sum := by
  have : (List.range l.length).map (at0 l) = l := by
    apply List.ext_getElem (by simp)
    intro i h1 h2
    simp only [List.length_map, List.length_range] at h1
    simp [at0, List.getD_eq_getElem?_getD, h1]
  rw [this]

/-- ONE helper, `k` concurrent `accumulate_macs` calls for records of one batch, call `t`
contributing `(dus[t], dws[t])`; EVERY schedule in which each of the `k` calls is given the processor at least once
(any order, any repetitions): the helper's running MACs end as the initial pair plus the sum of ALL contributions —
nothing lost, nothing counted twice. -/
theorem accumulate_atomic_sum (dus dws : List R) (hlen : dus.length = dws.length) (u0 w0 : R) (sched : List Nat)
    (hall : ∀ t, t < dus.length → t ∈ sched) (honly : ∀ t ∈ sched, t < dus.length) :
    (run (atomicStep (· + ·) (at0 dus) (at0 dws)) (init u0 w0) sched).u = u0 + dus.sum ∧
    (run (atomicStep (· + ·) (at0 dus) (at0 dws)) (init u0 w0) sched).w = w0 + dws.sum := by
  have h := inv_run sched (inv_init (at0 dus) (at0 dws) u0 w0)
  have hperm : (run (atomicStep (· + ·) (at0 dus) (at0 dws)) (init u0 w0) sched).done.Perm (List.range dus.length) := by
    rw [List.perm_ext_iff_of_nodup h.nodup List.nodup_range]
    intro a
    rw [done_iff, List.mem_range]
    simp only [init, List.not_mem_nil, or_false]
    exact ⟨honly a, hall a⟩
  refine ⟨?_, ?_⟩
  · rw [h.u_eq, (hperm.map (at0 dus)).sum_eq, sum_range_at0]
  · rw [h.w_eq, (hperm.map (at0 dws)).sum_eq, hlen, sum_range_at0]

/-- non-vacuity: a schedule of 3 calls with repetitions and in a scrambled order; the result on concrete numbers -/
example : (∀ t, t < 3 → t ∈ [2, 0, 2, 1, 0]) ∧ (∀ t ∈ [2, 0, 2, 1, 0], t < 3) := by decide
example : let s := run (atomicStep (· + ·) (fun t => [5, 7, 11].getD t 0) (fun t => [1, 2, 3].getD t 0)) (init 100 200) [2, 0, 2, 1, 0]
    (s.u, s.w) = (123, 206) := by decide

/-- the generated constants select the atomic step -/
theorem code_is_atomic : codeIsAtomic = true := by decide

/-- the DZKP side (`DZKPUpgraded::push` / `Batch::push`) has the same single-critical-section shape -/
theorem dzkp_push_is_atomic : dzkpPushIsAtomic = true := by decide

/-- `accumulate_atomic_sum` for `Upgraded::accumulate_macs` AS THE CODE HAS IT. -/
theorem accumulate_code_sum (dus dws : List R) (hlen : dus.length = dws.length) (u0 w0 : R) (sched : List Nat)
    (hall : ∀ t, t < dus.length → t ∈ sched) (honly : ∀ t ∈ sched, t < dus.length) :
    (run (codeStep (· + ·) (at0 dus) (at0 dws)) (init u0 w0) sched).u = u0 + dus.sum ∧
    (run (codeStep (· + ·) (at0 dus) (at0 dws)) (init u0 w0) sched).w = w0 + dws.sum := by
  rw [show codeStep (· + ·) (at0 dus) (at0 dws) = atomicStep (· + ·) (at0 dus) (at0 dws) from if_pos code_is_atomic]
  exact accumulate_atomic_sum dus dws hlen u0 w0 sched hall honly

/-- the recorded wires of a batch: (PRSS coefficient `α_k` of the record, MAC'd sharing) -/
abbrev Call (R : Type) := World R × MShare R

/-- the sequential model: `Mac.accumulate` for the calls in index order (all three helpers in lock-step) -/
def seqAcc (calls : List (Call R)) (acc0 : Acc R) : Acc R :=
  calls.foldl (fun acc c => accumulate (ringAlg R) c.1 c.2 acc) acc0

/-- one helper's local contributions to `u` / to `w`, call by call (`pick` selects the helper's view) -/
def uContribs (calls : List (Call R)) (pick : World R → HShare R) : List R :=
  calls.map fun c => contrib (ringAlg R) uContribArgs c.1 c.2 pick
def wContribs (calls : List (Call R)) (pick : World R → HShare R) : List R :=
  calls.map fun c => contrib (ringAlg R) wContribArgs c.1 c.2 pick

/-- helper `pick`'s final `(u, w)` when its calls are interleaved by `sched` (steps of `codeStep`) -/
def helperRun (calls : List (Call R)) (pick : World R → HShare R) (u0 w0 : R) (sched : List Nat) : State R :=
  run (codeStep (· + ·) (at0 (uContribs calls pick)) (at0 (wContribs calls pick))) (init u0 w0) sched

/-- the three helpers' accumulators after the concurrent execution with schedules `s1`, `s2`, `s3` -/
def concAcc (calls : List (Call R)) (acc0 : Acc R) (s1 s2 s3 : List Nat) : Acc R :=
  { u := ⟨(helperRun calls (·.h1) acc0.u.h1 acc0.w.h1 s1).u, (helperRun calls (·.h2) acc0.u.h2 acc0.w.h2 s2).u,
          (helperRun calls (·.h3) acc0.u.h3 acc0.w.h3 s3).u⟩,
    w := ⟨(helperRun calls (·.h1) acc0.u.h1 acc0.w.h1 s1).w, (helperRun calls (·.h2) acc0.u.h2 acc0.w.h2 s2).w,
          (helperRun calls (·.h3) acc0.u.h3 acc0.w.h3 s3).w⟩ }

theorem seqAcc_sums (calls : List (Call R)) : ∀ acc0 : Acc R,
    seqAcc calls acc0 =
      { u := ⟨acc0.u.h1 + (uContribs calls (·.h1)).sum, acc0.u.h2 + (uContribs calls (·.h2)).sum,
              acc0.u.h3 + (uContribs calls (·.h3)).sum⟩,
        w := ⟨acc0.w.h1 + (wContribs calls (·.h1)).sum, acc0.w.h2 + (wContribs calls (·.h2)).sum,
              acc0.w.h3 + (wContribs calls (·.h3)).sum⟩ } := by
  induction calls with
  | nil =>
    intro acc0
    simp only [seqAcc, uContribs, wContribs, List.foldl_nil, List.map_nil, List.sum_nil, add_zero]
  | cons c rest ih =>
    intro acc0
    have := ih (accumulate (ringAlg R) c.1 c.2 acc0)
    simp only [seqAcc, List.foldl_cons] at this ⊢
    rw [this]
    simp only [accumulate, uContribs, wContribs, List.map_cons, List.sum_cons, ringAlg, add_assoc]

/-- a schedule of `k` calls: every call is given the processor at least once, nothing else is scheduled -/
def Covers (k : Nat) (sched : List Nat) : Prop := (∀ t, t < k → t ∈ sched) ∧ (∀ t ∈ sched, t < k)

theorem helperRun_sums (calls : List (Call R)) (pick : World R → HShare R) (u0 w0 : R) {s : List Nat}
    (hs : Covers calls.length s) :
    (helperRun calls pick u0 w0 s).u = u0 + (uContribs calls pick).sum ∧
    (helperRun calls pick u0 w0 s).w = w0 + (wContribs calls pick).sum := by
  have hl : (uContribs calls pick).length = calls.length := List.length_map _
  have hlw : (wContribs calls pick).length = calls.length := List.length_map _
  exact accumulate_code_sum _ _ (hl.trans hlw.symm) u0 w0 s (hl ▸ hs.1) (hl ▸ hs.2)

/-- any number of recorded wires, ARBITRARY and mutually different interleavings on the three
helpers: the accumulators end up exactly as in the sequential model `Mac.accumulate` folded over the calls in index order.
Hence every statement about `run` / `accumulate` (`honest_validates`, `additive_attack_T`, `attack_accept_iff`, the counting
bound) holds for the concurrent execution. -/
theorem concurrent_eq_sequential (calls : List (Call R)) (acc0 : Acc R) (s1 s2 s3 : List Nat)
    (h1 : Covers calls.length s1) (h2 : Covers calls.length s2) (h3 : Covers calls.length s3) :
    concAcc calls acc0 s1 s2 s3 = seqAcc calls acc0 := by
  rw [seqAcc_sums]
  simp only [concAcc, (helperRun_sums calls _ _ _ h1).1, (helperRun_sums calls _ _ _ h1).2,
    (helperRun_sums calls _ _ _ h2).1, (helperRun_sums calls _ _ _ h2).2, (helperRun_sums calls _ _ _ h3).1,
    (helperRun_sums calls _ _ _ h3).2]

/-- an honest batch whose wires are recorded concurrently validates: every recorded wire a
consistent MAC'd sharing with `rx = r̂·x` (what `honest_validates` shows for every wire of an honest circuit), consistent
coefficients, arbitrary interleavings per helper: `T` reconstructs to `0` and `validate` returns `Ok` for every
check-zero mask. -/
theorem concurrent_honest_validates [DecidableEq R] (r : World R) (mu mw : Masks R) (calls : List (Call R))
    (hc : ∀ c ∈ calls, Consistent c.1 ∧ MConsistent c.2 ∧ rec c.2.rx = rec r * rec c.2.x)
    (s1 s2 s3 : List Nat) (h1 : Covers calls.length s1) (h2 : Covers calls.length s2) (h3 : Covers calls.length s3)
    (czρ : Masks R) (czMask : World R) (hcz : Consistent czMask) :
    let acc := concAcc calls (initAcc (ringAlg R) mu mw) s1 s2 s3
    rec (tOf (ringAlg R) (rec r) acc (noValErr (ringAlg R))) = 0 ∧
    validateE (ringAlg R) r acc (noValErr (ringAlg R)) czρ czMask = true := by
  intro acc
  refine validate_honest ?_ hcz
  -- every recorded wire has discrepancy `rx − r̂·x = 0`, so the sequential accumulators keep `T̂ = 0`
  rw [show acc = seqAcc calls (initAcc (ringAlg R) mu mw) from concurrent_eq_sequential calls _ s1 s2 s3 h1 h2 h3,
    seqAcc, foldl_accumulate_T (rec r) (·.1) calls (fun c h => ⟨(hc c h).1, (hc c h).2.1⟩), accT_initAcc, zero_add]
  refine List.sum_eq_zero fun x hx => ?_
  obtain ⟨c, hcm, rfl⟩ := List.mem_map.mp hx
  rw [disc, (hc c hcm).2.2, sub_self, mul_zero]

/-- non-vacuity: schedules for 3 calls that differ between the helpers -/
example : Covers 3 [0, 1, 2] ∧ Covers 3 [2, 2, 0, 1] ∧ Covers 3 [1, 0, 1, 2, 0] := by
  refine ⟨⟨?_, ?_⟩, ⟨?_, ?_⟩, ⟨?_, ?_⟩⟩ <;> decide

/-- two calls, contributions `(10, 1)` and `(200, 20)`, schedule fetch₀ fetch₁ store₀ store₁: the
second store overwrites the first, `(u, w)` ends as `(200, 20)` instead of `(210, 21)`; the atomic code gives `(210, 21)` on
the same (and on every) schedule. -/
theorem split_loses_update :
    let du : Nat → Nat := fun t => [10, 200].getD t 0
    let dw : Nat → Nat := fun t => [1, 20].getD t 0
    ((run (splitStep (· + ·) du dw) (init 0 0) [0, 1, 0, 1]).u, (run (splitStep (· + ·) du dw) (init 0 0) [0, 1, 0, 1]).w) = (200, 20) ∧
    (run (splitStep (· + ·) du dw) (init 0 0) [0, 1, 0, 1]).done = [1, 0] ∧
    ((run (atomicStep (· + ·) du dw) (init 0 0) [0, 1, 0, 1]).u, (run (atomicStep (· + ·) du dw) (init 0 0) [0, 1, 0, 1]).w) = (210, 21) := by
  decide

/-- numeric illustration, not derived from the model (integers, `r = 3`): local contribution pairs `(du_i, dw_i) = (4, 1),
(5, 2), (6, 2)` add up to `(15, 5)` with `15 = 3·5`, but no single pair satisfies `du = 3·dw`; without the first pair
`Σu − r·Σw = 11 − 3·4 ≠ 0`. -/
theorem split_breaks_honest_T :
    ((4 : Int) + 5 + 6) - 3 * (1 + 2 + 2) = 0 ∧ ((0 : Int) + 5 + 6) - 3 * (0 + 2 + 2) ≠ 0 ∧
    (4 : Int) ≠ 3 * 1 := by decide

/-- why no single-threaded suite can see the difference: if every call runs its two steps
back to back, the split variant behaves exactly like the atomic one (any carrier, any addition). -/
theorem split_sequential_eq_atomic {F : Type} (add : F → F → F) (du dw : Nat → F) (sched : List Nat) : ∀ s : State F,
    s.fetched = [] →
    run (splitStep add du dw) s (sched.flatMap fun t => [t, t]) = run (atomicStep add du dw) s sched := by
  induction sched with
  | nil => intro s _; rfl
  | cons t rest ih =>
    intro s hs
    -- the first step fetches `(u, w)`, the second stores the copy plus the contribution: together the atomic step
    have key : splitStep add du dw (splitStep add du dw s t) t = atomicStep add du dw s t ∧
        (atomicStep add du dw s t).fetched = [] := by
      by_cases hd : t ∈ s.done <;> simp [splitStep, atomicStep, hd, hs]
    rw [List.flatMap_cons, MacAtomic.run, List.foldl_append, List.foldl_cons, List.foldl_cons, List.foldl_nil, key.1]
    exact ih _ key.2

end IpaVerif.C04Race
