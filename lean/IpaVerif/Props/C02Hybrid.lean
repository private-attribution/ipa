import IpaVerif.Props.C02Mech
/-!
# C02 — the hybrid query as a concrete list of protected phases

`Generated.phaseOrder` (regenerated on every run from `hybrid/step.rs`, the `MaliciousProtocolSteps` pairings and
the body of `hybrid_protocol`; compared by suite `c02_channels` with the order of first traffic in real runs) lists
the protected steps of the hybrid query in execution order with the mechanism protecting each:

  padding count → shuffle → convert (DZKP) → eval_prf (MAC + openings) → group_by_sum (DZKP) → padding count →
  shuffle → reveal → aggregate (DZKP) → finalize (DZKP) → dp (DZKP)

`hybridPhases I` turns every row into the phase(s) of `Props/C02Mech.lean`:
`count ↦ countPhase`, `shuffle ↦ shufflePhase`, `mac ↦ macPhase` (circuit, validate, then the openings of `z`,
`R`), `dzkp ↦ dzkpPhase` followed by `openPhase` (values are opened only after the batch was validated:
`validated_partial_reveal`, `reveal_breakdowns` after `group_by_sum_validate`; the order is checked on real runs by
the validate-before-open rule of suite `c02_channels`).

`I : HybridInst` supplies, per step, the *encoding* of that step's computation in the mechanism's terms (see the
header of `C02Mech.lean` for what that abstracts).

Registered as partial. Missing for the full statement: the encodings are not derived from the Rust circuits (the
functional content of the phases is C01/C07's subject), the DZKP proof system's soundness against forged proofs is
the event `forge`, and no probability is attached to the bad events.
-/
namespace IpaVerif.C02
open IpaVerif.Malicious IpaVerif.Generated

/-- per protected step (keyed by its gate path), how its computation is expressed for the protecting mechanism -/
structure HybridInst (σ τ R F H : Type) [CommRing R] where
  count : List String → CountEnc σ τ
  shuffle : List String → ShuffleEnc σ τ F H
  dzkp : List String → DzkpEnc σ τ
  /-- the openings made after the DZKP step's batch was validated (possibly none) -/
  opens : List String → RevealEnc σ τ
  mac : List String → MacEnc σ τ R

variable {σ τ R F H : Type} [CommRing R] [DecidableEq R] [DecidableEq H]

/-- the phases of one row; `none` for a mechanism this file does not know (there is none in the table:
`phase_kinds_known`) -/
def phasesOf (I : HybridInst σ τ R F H) (row : List String × String) : Option (List (Phase σ τ)) :=
  if row.2 = "count" then some [countPhase (I.count row.1)]
  else if row.2 = "shuffle" then some [shufflePhase (I.shuffle row.1)]
  else if row.2 = "dzkp" then some [dzkpPhase (I.dzkp row.1), openPhase (I.opens row.1)]
  else if row.2 = "mac" then some [macPhase (I.mac row.1)]
  else none

def phasesOfRows (I : HybridInst σ τ R F H) : List (List String × String) → List (Phase σ τ)
  | [] => []
  | row :: rows => (phasesOf I row).getD [] ++ phasesOfRows I rows

/-- the hybrid query: one entry per protected step, in execution order -/
def hybridPhases (I : HybridInst σ τ R F H) : List (Phase σ τ) := phasesOfRows I phaseOrder

/-- every row of the regenerated execution order names one of the four mechanisms (nothing is dropped by
`phasesOfRows`), and the order is the expected one. -/
theorem phase_kinds_known :
    phaseOrder.all (fun row => row.2 ∈ ["count", "shuffle", "dzkp", "mac"]) = true ∧
    phaseOrder.map (·.2) =
      ["count", "shuffle", "dzkp", "mac", "dzkp", "count", "shuffle", "dzkp", "dzkp", "dzkp", "dzkp"] := by
  decide

/-- every step of the execution order has a row in the coverage table with the same mechanism, and every
DZKP / MAC step has its validate step registered -/
theorem phase_order_covered :
    phaseOrder.all (fun row => coverageTable.contains row) = true ∧
    phaseOrder.all (fun row => (row.2 ≠ "dzkp" ∧ row.2 ≠ "mac") ∨ (validateOf.map (·.1)).contains row.1) = true ∧
    (coverageTable.filter (fun r => r.2 ∈ ["count", "shuffle", "dzkp", "mac"])).all
      (fun r => phaseOrder.contains r) = true := by
  decide +kernel

theorem sound_ite {c : Prop} [Decidable c] {a b : Option (List (Phase σ τ))}
    (ha : ∀ p ∈ a.getD [], p.Sound) (hb : ∀ p ∈ b.getD [], p.Sound) :
    ∀ p ∈ (if c then a else b).getD [], p.Sound := by
  split <;> assumption

theorem phasesOf_sound (I : HybridInst σ τ R F H) (row : List String × String) :
    ∀ p ∈ (phasesOf I row).getD [], p.Sound :=
  sound_ite (List.forall_mem_singleton.mpr (countPhase_sound _)) <|
  sound_ite (List.forall_mem_singleton.mpr (shufflePhase_sound _)) <|
  sound_ite (List.forall_mem_cons.mpr ⟨dzkpPhase_sound _, List.forall_mem_singleton.mpr (openPhase_sound _)⟩) <|
  sound_ite (List.forall_mem_singleton.mpr (macPhase_sound _)) (List.forall_mem_nil _)

theorem phasesOfRows_sound (I : HybridInst σ τ R F H) (rows : List (List String × String)) :
    ∀ p ∈ phasesOfRows I rows, p.Sound := by
  induction rows with
  | nil => exact List.forall_mem_nil _
  | cons row rows ih => exact List.forall_mem_append.mpr ⟨phasesOf_sound I row, ih⟩

/-- the list has the expected shape: 6 DZKP steps each followed by its openings (12), 2 counts, 2 shuffles, 1 MAC step -/
theorem hybridPhases_length (I : HybridInst σ τ R F H) : (hybridPhases I).length = 17 := by
  simp [hybridPhases, phasesOfRows, phaseOrder, phasesOf]

/-- (Partial, see header.) For every encoding `I` of the steps, every tampering
choice per phase `ts` and every initial state `s` of the hybrid query: some honest helper aborts, or the query ends in
exactly the state of the untampered run, or one of the mechanisms' bad-challenge events happened on the way. -/
theorem hybrid_query_abort_or_same_partial (I : HybridInst σ τ R F H) (ts : List τ) (s : σ) :
    runAll (hybridPhases I) ts s = none ∨
    runAll (hybridPhases I) ts s = some (honestAll (hybridPhases I) s) ∨
    badAlong (hybridPhases I) ts s :=
  one_tamperer_abort_or_same_partial (hybridPhases I) (phasesOfRows_sound I phaseOrder) ts s

theorem hybrid_query_abort_or_same (I : HybridInst σ τ R F H) (ts : List τ) (s : σ)
    (hgood : ¬ badAlong (hybridPhases I) ts s) :
    runAll (hybridPhases I) ts s = none ∨ runAll (hybridPhases I) ts s = some (honestAll (hybridPhases I) s) :=
  one_tamperer_abort_or_same (hybridPhases I) (phasesOfRows_sound I phaseOrder) ts s hgood

/-! ## non-vacuity: a toy instance satisfying every hypothesis of the encodings -/
namespace Toy
open IpaVerif.Sharing IpaVerif.Mac IpaVerif.C04

/-- tampering choices of the toy adversary -/
structure T where
  zflip : Nat → Bool := fun _ => false
  forge : Bool := false
  macErr : Nat → Int × Int := fun _ => (0, 0)
  forgedOpen : Nat → Nat × Nat := fun _ => (0, 0)
  forgedCount : Nat → Bool × Nat := fun _ => (false, 0)
  heldRow : Nat → Option (List Bool × Bool) := fun _ => none

/-- state: a list of bits (at most 8 are multiplied) -/
def dz : DzkpEnc (List Bool) T where
  j := .h0
  n s := min s.length 8
  gate s _ k := { x := fun _ => s.getD k false, y := fun _ => true, p := fun _ => false }
  eval s e := (List.range (min s.length 8)).map fun k => (s.getD k false) ^^ e k
  zflip t := t.zflip
  forge t := t.forge
  sabotage _ := false
  hn s := by simp [IpaVerif.Generated.fp61]
  eval_ext s e h := by
    apply List.map_congr_left
    intro k hk
    rw [h k (List.mem_range.mp hk)]

def op : RevealEnc (List Bool) T where
  m := 2
  c := 0
  hc := by decide
  vals s := s.map fun b => fun i => if i = 0 then b.toNat else 0
  forged t := t.forgedOpen
  put _ opened := opened.map (· == 1)

def cn : CountEnc (List Bool) T where
  counts s := [s.length, 3, 0]
  forged t := t.forgedCount
  put s cs := s ++ List.replicate (cs.getD 1 0) false

def sh : ShuffleEnc (List Bool) T Bool (List Bool) where
  G := IpaVerif.C05.gf2
  hash := id
  hinj _ _ h := h
  keys _ := [true, true]
  rows s := s.map fun b => [b, !b]
  held t := t.heldRow
  eval _ rows := rows.map fun w => w.getD 0 false

def mc : MacEnc (List Bool) T Int where
  c := 0
  hc := by decide
  r _ := share (ringAlg Int) 5 1 2
  mu _ := ⟨1, 2, 3⟩
  mw _ := ⟨4, 5, 6⟩
  gs s := [.upgrade (share (ringAlg Int) s.length 7 8) ⟨1, 1, 2⟩ (share (ringAlg Int) 3 1 1) (noErr (ringAlg Int)),
           .upgrade (share (ringAlg Int) 2 0 1) ⟨2, 1, 2⟩ (share (ringAlg Int) 4 1 2) (noErr (ringAlg Int)),
           .mul 0 1 ⟨3, 1, 2⟩ ⟨1, 5, 2⟩ (share (ringAlg Int) 9 4 2) (noErr (ringAlg Int)) (noErr (ringAlg Int))]
  czρ _ := ⟨7, 8, 9⟩
  czMask _ := share (ringAlg Int) 11 3 4
  outs _ := [2]
  put s vs := if vs = [2 * (s.length : Int)] then s else []
  errs t := t.macErr
  ve _ := (0, 0, 0)
  forged _ := fun _ => (0, 0)
  ok s := by
    have hc : ∀ a b c : Int, Consistent (share (ringAlg Int) a b c) := fun _ _ _ => ⟨rfl, rfl, rfl⟩
    refine ⟨hc _ _ _, hc _ _ _, ?_⟩
    intro g hg
    simp only [List.mem_cons, List.mem_nil_iff, or_false] at hg
    rcases hg with rfl | rfl | rfl <;> simp [GateOk, hc]

def inst : HybridInst (List Bool) T Int Bool (List Bool) where
  count _ := cn
  shuffle _ := sh
  dzkp _ := dz
  opens _ := op
  mac _ := mc

/-- the theorem applies to the toy instance … -/
example (ts : List T) (s : List Bool) :=
  hybrid_query_abort_or_same_partial inst ts s

/-- … and the DZKP phase is not trivially aborting or trivially accepting: an honest run is accepted with the
products, a flipped `z` without a surviving forgery aborts, with a surviving forgery it is accepted with the wrong
value — which is exactly the phase's `bad` event. -/
example :
    (dzkpPhase dz).run [true, false] {} = some [true, false] ∧
    (dzkpPhase dz).run [true, false] { zflip := fun k => k == 1 } = none ∧
    (dzkpPhase dz).run [true, false] { zflip := fun k => k == 1, forge := true } = some [true, true] := by
  decide

end Toy

end IpaVerif.C02
