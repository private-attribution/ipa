import IpaVerif.Props.C08Gf
import IpaVerif.Proofs.C08GfField
import Mathlib.Tactic.NormNum.Prime
/-!
# C08 — every extracted binary field is a field

For each `bit_array_impl!` polynomial regenerated from `galois_field.rs`: every non-zero canonical
element has a multiplicative inverse and there are no zero divisors. Proof: the general ring theory
(`Proofs/C08GfRing`), the kernel-checked generator-order certificate (`gf*_cert_ok`), primality of the
listed prime factors of `2^BITS - 1`, and `Proofs/C08GfField.field_of_cert`
(`orderOf` + counting). If a polynomial in the source becomes reducible, the translator emits the
factor pair instead of a generator, `gf*_cert_ok` fails, and the harness replays the zero divisor.
-/
namespace IpaVerif.C08
open IpaVerif.Gf2k IpaVerif.Generated IpaVerif.GfRing IpaVerif.GfField

/-- the primes occurring in the factorisations of `2^BITS - 1` listed by the certificates -/
theorem cert_factor_primes : ∀ q ∈ [3, 5, 7, 11, 17, 31, 41, 73, 257, 61681, 65537], Nat.Prime q := by
  simp only [List.forall_mem_cons, List.not_mem_nil, false_imp_iff, implies_true, and_true]
  norm_num

theorem primes_of_mem {l : List (Nat × Nat)}
    (h : ∀ qe ∈ l, qe.1 ∈ [3, 5, 7, 11, 17, 31, 41, 73, 257, 61681, 65537]) : ∀ qe ∈ l, qe.1.Prime :=
  fun qe hq => cert_factor_primes _ (h qe hq)

theorem gf2_is_field : IsFieldModel gf2 := field_of_cert gf2Cert (by decide) gf2_cert_ok (primes_of_mem (by decide))
theorem gf3_is_field : IsFieldModel gf3 := field_of_cert gf3Cert (by decide) gf3_cert_ok (primes_of_mem (by decide))
theorem gf8_is_field : IsFieldModel gf8 := field_of_cert gf8Cert (by decide) gf8_cert_ok (primes_of_mem (by decide))
theorem gf9_is_field : IsFieldModel gf9 := field_of_cert gf9Cert (by decide) gf9_cert_ok (primes_of_mem (by decide))
theorem gf20_is_field : IsFieldModel gf20 := field_of_cert gf20Cert (by decide) gf20_cert_ok (primes_of_mem (by decide))
theorem gf32_is_field : IsFieldModel gf32 := field_of_cert gf32Cert (by decide) gf32_cert_ok (primes_of_mem (by decide))
theorem gf40_is_field : IsFieldModel gf40 := field_of_cert gf40Cert (by decide) gf40_cert_ok (primes_of_mem (by decide))

/-- Every binary field type exported by `ff::galois_field` is a field: each non-zero element has
an inverse and there are no zero divisors (with the commutative-ring laws of `Props/C08Gf`). -/
theorem binary_fields_are_fields (P : Params) (hP : P ∈ binaryFields) : IsFieldModel P := by
  simp only [binaryFields, List.mem_cons, List.mem_nil_iff, or_false] at hP
  rcases hP with rfl | rfl | rfl | rfl | rfl | rfl | rfl
  exacts [gf2_is_field, gf3_is_field, gf8_is_field, gf9_is_field, gf20_is_field, gf32_is_field, gf40_is_field]

/-- Non-vacuity: `0x53 · 0xCA = 1` in the AES field `Gf8Bit`. -/
example : mul gf8 0x53 0xCA = some 1 := by decide

end IpaVerif.C08
