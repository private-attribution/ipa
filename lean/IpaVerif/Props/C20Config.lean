import IpaVerif.Props.C20
import IpaVerif.Generated.ServerCtor
/-!
# C20 — the identity header is honoured only when TLS was EXPLICITLY disabled

`start_on` installs `SetClientIdentityFromHeader` in the arms with `self.config.disable_https == true`
(theorems `arm_*`, `header_only_without_tls`). That is worth exactly as much as the guarantee that
`self.config.disable_https` is what the caller of `IpaHttpServer::new_mpc` / `new_shards` wrote.
-/
namespace IpaVerif.C20Config
open IpaVerif.Auth IpaVerif.Generated.Routes IpaVerif.C20

/-- Regenerated on every run, plugin `c20_ctor`: the constructors store `config`
unmodified, nothing under net/server assigns to `disable_https` / `tls`, an HTTPS arm without key material
panics. This is what makes `boot = bootWith ctorStore` the model of the code. -/
theorem server_ctor_ok :
    IpaVerif.Generated.ServerCtor.serverCtor
      = { storesConfig := true, neverAssigned := true, tlsNeedsMaterial := true, recognised := true } := by
  decide

theorem boot_eq (c : SrvConfig) (l : Bool) :
    boot c l = some (if !c.disableHttps && !c.tlsPresent then .refuses else .serves (wantedArm c.disableHttps l)) := by
  simp only [boot, bootWith, ctorStore, startOn, armFor_eq, Option.map_some]
  rfl

/-- What each of the four configurations does, for either listener mode: `disable_https`
⇒ the plain arm WITH the header layer (key material, if any, is not used); HTTPS with key material ⇒ the TLS
arm WITHOUT the header layer; HTTPS without key material ⇒ refuses to start. -/
theorem boot_table (l t : Bool) :
    boot ⟨true, t⟩ l = some (.serves (wantedArm true l)) ∧
    boot ⟨false, true⟩ l = some (.serves (wantedArm false l)) ∧
    boot ⟨false, false⟩ l = some .refuses :=
  ⟨boot_eq _ l, boot_eq _ l, boot_eq _ l⟩

/-- the serving mode is a function of the configuration as the caller wrote it: a running server has the
header layer iff `disable_https` was `true`, the TLS acceptor iff it was `false` -/
theorem boot_mode (c : SrvConfig) (l : Bool) (a : StartArm) (h : boot c l = some (.serves a)) :
    a.headerLayer = c.disableHttps ∧ a.tlsAcceptor = !c.disableHttps := by
  rw [boot_eq] at h
  split at h <;> cases h
  exact ⟨rfl, rfl⟩

/-- For EVERY configuration handed to the constructor,
either listener mode, every client that presents no certificate of a configured peer — whatever protocol it
speaks and whatever identity header it sends — and every request matching a route of `h2h_router` (MPC
server) / `s2s_router` (shard server): unless `disable_https` was explicitly `true`, the only answers are
401 or none at all. (Contrapositive: an identity header is honoured ⇒ `disable_https == true`.) -/
theorem header_only_when_https_explicitly_disabled {Ident : Type} (c : SrvConfig) (l : Bool)
    (tls : Bool) (cert : ClientCert Ident) (h : Option (Option Ident)) (path : List String) (m : Method)
    (hcert : cert.identity = none) :
    c.disableHttps = true ∨
    ((∀ pe ∈ h2hMounted, matchPath pe.path path = true → pe.method = m →
        serveBooted .helper (flatten mpcRouter) (boot c l) ⟨tls, cert, h⟩ path m = .connErr ∨
        serveBooted .helper (flatten mpcRouter) (boot c l) ⟨tls, cert, h⟩ path m = .resp .unauthorized) ∧
     (∀ pe ∈ s2sMounted, matchPath pe.path path = true → pe.method = m →
        serveBooted .shard (flatten shardRouter) (boot c l) ⟨tls, cert, h⟩ path m = .connErr ∨
        serveBooted .shard (flatten shardRouter) (boot c l) ⟨tls, cert, h⟩ path m = .resp .unauthorized)) := by
  obtain ⟨d, t⟩ := c
  cases d
  · right
    rw [boot_eq]
    cases t
    · -- HTTPS without key material: nothing is running
      exact ⟨fun _ _ _ _ => .inl rfl, fun _ _ _ _ => .inl rfl⟩
    · exact live_requires_verified_identity false l _ (armFor_eq false l) tls cert h path m hcert
  · left; rfl

/-- the hypotheses are satisfiable and the disjunction is not vacuous: (false, None), pre-bound, a plain
client claiming helper B in the header gets no answer on the step route -/
example : serveBooted .helper (flatten mpcRouter) (boot ⟨false, false⟩ true) ⟨false, .none, some (some 1)⟩
    ["query", "0", "step", "a"] .post = .connErr := by decide

/-- with TLS explicitly disabled the same client IS served (the test-only mode the property allows) -/
example : serveBooted .helper (flatten mpcRouter) (boot ⟨true, false⟩ true) ⟨false, .none, some (some 1)⟩
    ["query", "0", "step", "a"] .post = .resp (.handled "query::step::router:handler::<F>") := rfl

/-- key material present but TLS explicitly disabled: the material is not used, the header counts -/
example : boot ⟨true, true⟩ false = some (.serves (wantedArm true false)) := by decide

/-- With the constructor variant
`config.disable_https |= config.tls.is_none()` the configuration (disable_https = false, tls = None) does
not refuse to start; it serves plain HTTP with the header layer, and a caller that merely CLAIMS to be
helper B / shard 1 reaches the step handler of the MPC / shard server — although TLS was never explicitly
disabled. Under the code's constructor the same configuration refuses to start. -/
theorem normalising_ctor_counterexample :
    bootWith ctorNormalise ⟨false, false⟩ true = some (.serves (wantedArm true true)) ∧
    serveBooted .helper (flatten mpcRouter) (bootWith ctorNormalise ⟨false, false⟩ true)
      ⟨false, .none, some (some 1)⟩ ["query", "0", "step", "a"] .post
      = .resp (.handled "query::step::router:handler::<F>") ∧
    serveBooted .shard (flatten shardRouter) (bootWith ctorNormalise ⟨false, false⟩ false)
      ⟨false, .none, some (some 1)⟩ ["query", "0", "step", "a"] .post
      = .resp (.handled "query::step::router:handler::<F>") ∧
    boot ⟨false, false⟩ true = some .refuses ∧
    -- the two constructors agree on every configuration a launcher with the `tls.is_some() == !disable_https`
    -- assertion produces, which is why no existing test can tell them apart
    (∀ l, bootWith ctorNormalise ⟨true, false⟩ l = boot ⟨true, false⟩ l) ∧
    (∀ l, bootWith ctorNormalise ⟨false, true⟩ l = boot ⟨false, true⟩ l) := by
  decide

end IpaVerif.C20Config
