import IpaVerif.Model.Malicious
import IpaVerif.Props.C02
import IpaVerif.Props.C03
import IpaVerif.Props.C04
import IpaVerif.Props.C05
/-!
# C02 — the protected phases, instantiated with the real mechanisms

The `Phase` instances for the five protecting mechanisms of the hybrid query, each proved `Sound` from the mechanism
theorems of C03, C04, C05 and C02's own two checks, with the mechanism's bad-challenge event as the `bad` predicate.

**What is abstracted (honest list).** The query state `σ` ("everything the two honest helpers' shares determine")
and the tampering choices `τ` stay type parameters. How a phase's computation is expressed in the mechanism's
terms — the list of AND gates of a DZKP batch, the arithmetic circuit of a MAC batch, the table of a shuffle, the
sharings that are opened — is an *encoding* supplied by the instance (`DzkpEnc`, `MacEnc`, …), not derived from
the Rust circuits. The soundness of the recursive DZKP proof against a forged proof (Fiat–Shamir challenge hits a
root) is the event `forge` and is not proved (C03 registers it as partial). Probabilities of the bad events are
not formalised (C04 counts the single-attack case). Batching (one validator batch per phase here), partial
openings (here both honest helpers open) and the sharded layout are simplified.
-/
namespace IpaVerif.C02
open IpaVerif.Malicious

/-- all the values if every check succeeded, `none` as soon as one failed -/
def collect {α : Type} : List (Option α) → Option (List α)
  | [] => some []
  | none :: _ => none
  | some a :: r => (collect r).map (a :: ·)

/-- `hnil`, `hcons`: the recursion shared by `countAll`, `openAll`, `openAllM`. -/
theorem collect_checks_none_or {α β γ : Type} (all : List α → Nat → List (Option β)) (step : α → Nat → Option β)
    (hnil : ∀ k, all [] k = []) (hcons : ∀ a r k, all (a :: r) k = step a k :: all r (k + 1))
    (v : α → β) (hstep : ∀ a k, step a k = none ∨ step a k = some (v a)) (f : List β → γ) (l : List α) (k : Nat) :
    (collect (all l k)).map f = none ∨ (collect (all l k)).map f = some (f (l.map v)) := by
  induction l generalizing k f with
  | nil => rw [hnil]; exact .inr rfl
  | cons a r ih =>
    rw [hcons]
    rcases hstep a k with h | h
    · rw [h]; exact .inl rfl
    · rw [h]
      simp only [collect, Option.map_map]
      exact ih (f ∘ (v a :: ·)) (k + 1)

/-! ## dummy-count agreement (`apply_dp_padding_pass`) -/

/-- `counts s`: per padding pass, the number of dummy rows the two generating helpers derive from their shared
randomness; `forged t k = (side, v)`: in pass `k` the corrupt generating helper reports `v` instead, `side` says
whether it is the excluded helper's right (`true`) or left peer; `put`: the query continues with these counts. -/
structure CountEnc (σ τ : Type) where
  counts : σ → List Nat
  forged : τ → Nat → Bool × Nat
  put : σ → List Nat → σ

def countPass (honest : Nat) (f : Bool × Nat) : Option Nat :=
  if f.1 then countAt f.2 honest else countAt honest f.2

def countAll (f : Nat → Bool × Nat) : List Nat → Nat → List (Option Nat)
  | [], _ => []
  | c :: r, k => countPass c (f k) :: countAll f r (k + 1)

def countPhase {σ τ : Type} (E : CountEnc σ τ) : Phase σ τ where
  honest s := E.put s (E.counts s)
  run s t := (collect (countAll (E.forged t) (E.counts s) 0)).map (E.put s)
  bad _ _ := False

theorem countPass_sound (c : Nat) (f : Bool × Nat) : countPass c f = none ∨ countPass c f = some c := by
  unfold countPass
  split
  · exact (count_tamper c f.2).2
  · exact (count_tamper c f.2).1

theorem countPhase_sound {σ τ : Type} (E : CountEnc σ τ) : (countPhase E).Sound := fun s t =>
  (List.map_id (E.counts s) ▸ collect_checks_none_or (countAll (E.forged t)) (fun c k => countPass c (E.forged t k))
    (fun _ => rfl) (fun _ _ _ => rfl) id (fun c _ => countPass_sound c _) (E.put s) (E.counts s) 0).imp_right .inl

/-! ## two-copy openings (`malicious_reveal`) -/

/-- `vals s`: the sharings (values mod `m`) opened in this phase; `forged t k = (mL, mR)`: what the corrupt helper
`c` sends to its left / right peer in the `k`-th opening; `put`: the query continues with the opened values. -/
structure RevealEnc (σ τ : Type) where
  m : Nat
  c : Nat
  hc : c < 3
  vals : σ → List (Nat → Nat)
  forged : τ → Nat → Nat × Nat
  put : σ → List Nat → σ

/-- both honest helpers (`c+1`, `c+2`) must obtain the value, otherwise the query aborts. -/
def openBoth (m : Nat) (s : Nat → Nat) (c : Nat) (f : Nat × Nat) : Option Nat :=
  match revealWithCorrupt m s c (nxt c) f.1 f.2, revealWithCorrupt m s c (prv c) f.1 f.2 with
  | some a, some _ => some a
  | _, _ => none

theorem openBoth_sound (m : Nat) (s : Nat → Nat) (c : Nat) (f : Nat × Nat) :
    openBoth m s c f = none ∨ openBoth m s c f = some (reconstruct m s) := by
  have h1 := reveal_tamper m s c (nxt c) (by unfold nxt; omega) (by unfold nxt; omega) f.1 f.2
  have h2 := reveal_tamper m s c (prv c) (by unfold prv; omega) (by unfold prv; omega) f.1 f.2
  unfold openBoth
  rcases h1 with h1 | h1 <;> rcases h2 with h2 | h2 <;> simp [h1, h2]

def openAll (m c : Nat) (f : Nat → Nat × Nat) : List (Nat → Nat) → Nat → List (Option Nat)
  | [], _ => []
  | s :: r, k => openBoth m s c (f k) :: openAll m c f r (k + 1)

def openPhase {σ τ : Type} (E : RevealEnc σ τ) : Phase σ τ where
  honest s := E.put s ((E.vals s).map (reconstruct E.m))
  run s t := (collect (openAll E.m E.c (E.forged t) (E.vals s) 0)).map (E.put s)
  bad _ _ := False

theorem openPhase_sound {σ τ : Type} (E : RevealEnc σ τ) : (openPhase E).Sound := fun s t =>
  (collect_checks_none_or (openAll E.m E.c (E.forged t)) (fun v k => openBoth E.m v E.c (E.forged t k))
    (fun _ => rfl) (fun _ _ _ => rfl) (reconstruct E.m) (fun v _ => openBoth_sound E.m v E.c _) (E.put s) (E.vals s) 0
    ).imp_right .inl

/-! ## DZKP-protected multiplications (`dzkp_validator.rs`) -/

open IpaVerif.Dzkp in
theorem consistent_flip_zr (vw vw' : Hid → View) (j : Hid)
    (h : ∀ i, vw' i = if i.same j.prev then flipView (vw i) .zr else vw i) :
    verifierTripleConsistent vw' j = !verifierTripleConsistent vw j := by
  have hl : j.prev.same j.prev = true := by cases j <;> rfl
  have hr : j.next.same j.prev = false := by cases j <;> rfl
  simp only [verifierTripleConsistent, leftVerifierU, rightVerifierV, h, hl, hr, if_true, Bool.false_eq_true, if_false,
    flipView, Bool.xor_not, Bool.not_xor]

open IpaVerif.Dzkp in
/-- the verifiers' triple of the corrupt prover's gate is inconsistent whenever the transmitted `z` was
altered (the `sentZ` line of `gate_views`, read on the *verifiers'* records, which the prover does not control). -/
theorem sentZ_inconsistent (g : Gate) (j : Hid) :
    verifierTripleConsistent (views g (some (j, Flip.sentZ))) j = false := by
  rw [IpaVerif.C03.views_sentZ, consistent_flip_zr (views g none) _ j (IpaVerif.C03.views_flip g j.prev .zr (by decide)),
    ((IpaVerif.C03.gate_views g).1 j).2.1]
  rfl

/-- One validator batch of AND gates with the corrupt helper `j` as prover.

* `n s`: number of multiplications in the batch; `gate s e k`: the nine share bits of the `k`-th multiplication
  when the outputs of earlier gates carry the additive errors `e` (a GF(2) error is a flip);
* `eval s e`: the query state after the phase when the corrupt helper's transmitted `z` of gate `k` is flipped iff
  `e k` — the honest helpers go on computing with what they received;
* `zflip`, `forge`, `sabotage`: the adversary's choices — which `z` to flip, whether its forged proof of the
  (false) statement survives the verifiers' checks (the unproved soundness event), whether it makes validation
  fail outright. -/
structure DzkpEnc (σ τ : Type) where
  j : IpaVerif.Dzkp.Hid
  n : σ → Nat
  gate : σ → (Nat → Bool) → Nat → IpaVerif.Dzkp.Gate
  eval : σ → (Nat → Bool) → σ
  zflip : τ → Nat → Bool
  forge : τ → Bool
  sabotage : τ → Bool
  hn : ∀ s, n s < IpaVerif.Generated.fp61.p
  eval_ext : ∀ s e, (∀ k, k < n s → e k = false) → eval s e = eval s (fun _ => false)

/-- per gate: is the triple `(u from the left verifier, v from the right verifier)` consistent? -/
def dzkpFlags {σ τ : Type} (E : DzkpEnc σ τ) (s : σ) (t : τ) : List Bool :=
  (List.range (E.n s)).map fun k =>
    IpaVerif.Dzkp.verifierTripleConsistent
      (IpaVerif.Dzkp.views (E.gate s (E.zflip t) k)
        (if E.zflip t k then some (E.j, IpaVerif.Dzkp.Flip.sentZ) else none)) E.j

/-- `Batch::validate`: the proof is about `Σ_k ⟨u_k, v_k⟩ = m·(−1/2)` for the verifiers' `u`, `v`. -/
def dzkpAccept {σ τ : Type} (E : DzkpEnc σ τ) (s : σ) (t : τ) : Bool :=
  !E.sabotage t &&
    (decide (IpaVerif.C03.sumTerms (dzkpFlags E s t) = IpaVerif.C03.expectedSum (dzkpFlags E s t).length)
      || E.forge t)

def dzkpPhase {σ τ : Type} (E : DzkpEnc σ τ) : Phase σ τ where
  honest s := E.eval s (fun _ => false)
  run s t := if dzkpAccept E s t then some (E.eval s (E.zflip t)) else none
  bad s t := E.forge t = true ∧
    IpaVerif.C03.sumTerms (dzkpFlags E s t) ≠ IpaVerif.C03.expectedSum (dzkpFlags E s t).length

theorem dzkpPhase_sound {σ τ : Type} (E : DzkpEnc σ τ) : (dzkpPhase E).Sound := by
  intro s t
  by_cases hacc : dzkpAccept E s t = true
  · by_cases hsum : IpaVerif.C03.sumTerms (dzkpFlags E s t) = IpaVerif.C03.expectedSum (dzkpFlags E s t).length
    · -- the statement is true: every gate is consistent, so no `z` was altered
      have hlen : (dzkpFlags E s t).length < IpaVerif.Generated.fp61.p := by
        simpa only [dzkpFlags, List.length_map, List.length_range] using E.hn s
      have hall := (IpaVerif.C03.sum_iff_all_consistent _ hlen).mp hsum
      have hz : ∀ k, k < E.n s → E.zflip t k = false := by
        intro k hk
        have hk' := List.all_eq_true.mp hall _ (List.mem_map_of_mem (List.mem_range.mpr hk))
        cases hf : E.zflip t k
        · rfl
        · simp only [hf, if_true, sentZ_inconsistent, id] at hk'
          exact nomatch hk'
      exact .inr (.inl ((if_pos hacc).trans (congrArg some (E.eval_ext s _ hz))))
    · have hforge : E.sabotage t = false ∧ E.forge t = true := by simpa [dzkpAccept, hsum] using hacc
      exact .inr (.inr ⟨hforge.2, hsum⟩)
  · exact .inl (if_neg hacc)

/-! ## shuffle with MAC tags and cross-helper hashes (`shuffle/malicious.rs`) -/

open IpaVerif.C05 in
/-- `rows s`: the table (data words per row) an honest verifier must hold after the honest shuffle, `keys s` the
secret MAC keys, `hash` the collision-free hash of `verify_shuffle` (hypothesis `hinj`, as in
`shuffle_tamper_core`); `held t k = some (w, tag)`: through its altered messages the corrupt helper makes the
honest verifier hold row `w` with tag `tag` at position `k` (`none` = untouched); `eval s rows'`: the query state
when the honest helpers continue with `rows'` (tags are dropped after verification). -/
structure ShuffleEnc (σ τ F H : Type) where
  G : TagField F
  hash : List F → H
  hinj : ∀ a b, hash a = hash b → a = b
  keys : σ → List F
  rows : σ → List (List F)
  held : τ → Nat → Option (List F × F)
  eval : σ → List (List F) → σ

/-- the rows (with tags) the verifier holds: honest rows carry their honest tag `Σ keyᵢ·wordᵢ`. -/
def heldRows {F : Type} (G : IpaVerif.C05.TagField F) (keys : List F) (held : Nat → Option (List F × F)) :
    List (List F) → Nat → List (List F × F)
  | [], _ => []
  | w :: r, k => (match held k with | some x => x | none => (w, IpaVerif.C05.ip G w keys)) :: heldRows G keys held r (k + 1)

def shuffleChecks {σ τ F H : Type} (E : ShuffleEnc σ τ F H) (s : σ) (t : τ) : List F :=
  (heldRows E.G (E.keys s) (E.held t) (E.rows s) 0).map fun x => IpaVerif.C05.check E.G (E.keys s) x.1 x.2

/-- what the neighbour computes from the table the verifier *should* hold -/
def shuffleExpected {σ τ F H : Type} (E : ShuffleEnc σ τ F H) (s : σ) : List F :=
  (E.rows s).map fun w => IpaVerif.C05.check E.G (E.keys s) w (IpaVerif.C05.ip E.G w (E.keys s))

def shufflePhase {σ τ F H : Type} [DecidableEq H] (E : ShuffleEnc σ τ F H) : Phase σ τ where
  honest s := E.eval s (E.rows s)
  run s t :=
    if E.hash (shuffleChecks E s t) = E.hash (shuffleExpected E s) then
      some (E.eval s ((heldRows E.G (E.keys s) (E.held t) (E.rows s) 0).map (·.1)))
    else none
  -- some position holds a *different* row that nevertheless verifies under the secret keys: for a changed data
  -- word this pins the corresponding key to one value (`tag_detects`); a changed tag alone never verifies
  -- (`tag_detects_tag_only`).
  bad s t := ∃ x ∈ (heldRows E.G (E.keys s) (E.held t) (E.rows s) 0).zip (E.rows s),
    x.1.1 ≠ x.2 ∧ IpaVerif.C05.check E.G (E.keys s) x.1.1 x.1.2 = E.G.zero

theorem heldRows_length {F : Type} (G : IpaVerif.C05.TagField F) (keys : List F) (held : Nat → Option (List F × F))
    (rows : List (List F)) (k : Nat) : (heldRows G keys held rows k).length = rows.length := by
  induction rows generalizing k with
  | nil => rfl
  | cons w r ih => simp [heldRows, ih]

theorem exists_zip_ne_or_map_fst_eq {α β : Type} (l : List (α × β)) (r : List α) (h : l.length = r.length) :
    (∃ x ∈ l.zip r, x.1.1 ≠ x.2) ∨ l.map (·.1) = r := by
  induction l generalizing r with
  | nil => exact .inr (List.eq_nil_of_length_eq_zero h.symm).symm
  | cons a l ih =>
    obtain ⟨b, r, rfl⟩ := List.exists_cons_of_length_eq_add_one h.symm
    by_cases hab : a.1 = b
    · rcases ih r (Nat.succ.inj h) with ⟨x, hx, hne⟩ | heq
      · exact .inl ⟨x, List.mem_cons_of_mem _ hx, hne⟩
      · exact .inr (by rw [List.map_cons, hab, heq])
    · exact .inl ⟨(a, b), List.mem_cons_self, hab⟩

theorem shufflePhase_sound {σ τ F H : Type} [DecidableEq H] (E : ShuffleEnc σ τ F H) : (shufflePhase E).Sound := by
  intro s t
  by_cases hacc : E.hash (shuffleChecks E s t) = E.hash (shuffleExpected E s)
  · right
    rcases exists_zip_ne_or_map_fst_eq _ _ (heldRows_length E.G (E.keys s) (E.held t) (E.rows s) 0) with
      ⟨x, hx, hne⟩ | hsame
    · -- its check value is among the expected ones, which are all zero (`check_honest`)
      have hmem : IpaVerif.C05.check E.G (E.keys s) x.1.1 x.1.2 ∈ shuffleExpected E s :=
        E.hinj _ _ hacc ▸ List.mem_map_of_mem (List.of_mem_zip hx).1
      obtain ⟨w, -, hw⟩ := List.mem_map.mp hmem
      exact .inr ⟨x, hx, hne, hw ▸ IpaVerif.C05.check_honest E.G _ _⟩
    · exact .inl ((if_pos hacc).trans (congrArg (some <| E.eval s ·) hsame))
  · exact .inl (if_neg hacc)

/-- **Key secrecy is necessary (finding F15).** `shufflePhase`'s bad event is rare only for keys the adversary
does not know when it chooses the altered row (`tag_detects`). If it knows the keys, *every* change `d` of the data
words goes through: shift the tag by `Σ keyᵢ·dᵢ` and the row's check value is unchanged — the hash comparison of
`verify_shuffle` cannot notice. In `malicious_sharded_shuffle` H1's part of the shuffle rounds ends (after the
`cardinality` word from H2) before H2 and H3 exchange `c₁`, `c₂`; H1 then opens its key shares, and the share it
sends to H2 is the one H2 lacks. Replayed on the real code by `c02_tamper` (`macshift` cases: accepted, different
histogram). -/
theorem known_key_forgery_counterexample {F : Type} (G : IpaVerif.C05.TagField F) (keys w d : List F) (t : F)
    (h : w.length = d.length) :
    IpaVerif.C05.check G keys (IpaVerif.C05.vadd G w d) (G.add t (IpaVerif.C05.ip G d keys))
      = IpaVerif.C05.check G keys w t := by
  rw [IpaVerif.C05.check_add G keys w d t _ h, IpaVerif.C05.check_honest, G.add_zero]

/-- a concrete forged row over GF(2) with keys `[1, 1]`: data `[1,0] → [0,0]`, tag `1 → 0` verifies like the original -/
example : IpaVerif.C05.check IpaVerif.C05.gf2 [true, true] [false, false] false
    = IpaVerif.C05.check IpaVerif.C05.gf2 [true, true] [true, false] true := by decide

/-! ## MAC-protected arithmetic (`validator.rs`, `prf_eval.rs`) -/

section Mac
open IpaVerif.Sharing IpaVerif.Mac IpaVerif.C04
variable {R : Type} [CommRing R]

/-- only the corrupt helper `c` puts an error on a message -/
def errAt (c : Nat) (v : R) : Err R :=
  match c % 3 with
  | 0 => ⟨v, 0, 0⟩
  | 1 => ⟨0, v, 0⟩
  | _ => ⟨0, 0, v⟩

theorem errSum_errAt (c : Nat) (v : R) : errSum (errAt c v) = v := by
  unfold errAt errSum; split <;> simp

/-- the circuit with the corrupt helper's errors `f k = (δ_k, δ′_k)` put on the messages of gate `k`. -/
def setErrs (c : Nat) (f : Nat → R × R) : List (Gate R) → Nat → List (Gate R)
  | [], _ => []
  | .upgrade x ρ α _ :: gs, k => .upgrade x ρ α (errAt c (f k).2) :: setErrs c f gs (k + 1)
  | .mul i j ρ ρ' α _ _ :: gs, k => .mul i j ρ ρ' α (errAt c (f k).1) (errAt c (f k).2) :: setErrs c f gs (k + 1)
  | .add i j :: gs, k => .add i j :: setErrs c f gs (k + 1)
  | .sub i j :: gs, k => .sub i j :: setErrs c f gs (k + 1)
  | .neg i :: gs, k => .neg i :: setErrs c f gs (k + 1)
  | .mulConst i a :: gs, k => .mulConst i a :: setErrs c f gs (k + 1)

theorem setErrs_ok (c : Nat) (f : Nat → R × R) (gs : List (Gate R)) (k : Nat) (h : ∀ g ∈ gs, GateOk g) :
    ∀ g ∈ setErrs c f gs k, GateOk g := by
  induction gs generalizing k with
  | nil => exact fun _ hg => nomatch hg
  | cons g0 r ih =>
    -- `GateOk` does not look at the errors of a gate
    have ⟨h0, hr⟩ := List.forall_mem_cons.mp h
    cases g0 <;> exact List.forall_mem_cons.mpr ⟨h0, ih _ hr⟩

theorem plain_setErrs (c : Nat) (f : Nat → R × R) (gs : List (Gate R)) (k : Nat) (vs : List R) :
    plain (setErrs c f gs k) vs = plain gs vs := by
  induction gs generalizing k vs with
  | nil => rfl
  | cons g0 r ih => cases g0 <;> exact ih _ _

/-- One MAC validator batch: an arithmetic circuit (`gs s`, any sequence of upgrades / multiplications / linear
operations as in C04) under batch key `r s`, then `validate`, then the two-copy openings of the wires `outs s`.
`errs`, `ve`, `forged` are the corrupt helper's choices: additive errors on every message of every gate, on the
three messages of `validate` (propagate `u`, `w`, check-zero multiplication), and the copies sent in each opening. -/
structure MacEnc (σ τ R : Type) [CommRing R] where
  c : Nat
  hc : c < 3
  r : σ → World R
  mu : σ → Masks R
  mw : σ → Masks R
  gs : σ → List (Gate R)
  czρ : σ → Masks R
  czMask : σ → World R
  outs : σ → List Nat
  put : σ → List R → σ
  errs : τ → Nat → R × R
  ve : τ → R × R × R
  forged : τ → Nat → R × R
  ok : ∀ s, Consistent (r s) ∧ Consistent (czMask s) ∧ ∀ g ∈ gs s, GateOk g

def MacEnc.circuit {σ τ : Type} (E : MacEnc σ τ R) (s : σ) (t : τ) : List (Gate R) :=
  setErrs E.c (E.errs t) (E.gs s) 0

def MacEnc.valErr {σ τ : Type} (E : MacEnc σ τ R) (t : τ) : ValErr R :=
  ⟨errAt E.c (E.ve t).1, errAt E.c (E.ve t).2.1, errAt E.c (E.ve t).2.2⟩

def MacEnc.state {σ τ : Type} (E : MacEnc σ τ R) (s : σ) (t : τ) : St R :=
  run (ringAlg R) (E.r s) (E.circuit s t) ⟨[], initAcc (ringAlg R) (E.mu s) (E.mw s)⟩

/-- both honest helpers open wire `m` -/
def openBothM [DecidableEq R] (m : MShare R) (c : Nat) (f : R × R) : Option R :=
  match revealM (ringAlg R) m c (c + 1) f.1 f.2, revealM (ringAlg R) m c (c + 2) f.1 f.2 with
  | some a, some _ => some a
  | _, _ => none

def openAllM [DecidableEq R] (st : St R) (c : Nat) (f : Nat → R × R) : List Nat → Nat → List (Option R)
  | [], _ => []
  | i :: r, k => openBothM (wire (ringAlg R) st i) c (f k) :: openAllM st c f r (k + 1)

/-- no message of the batch carries a (net) error -/
def MacEnc.NoDev {σ τ : Type} (E : MacEnc σ τ R) (s : σ) (t : τ) : Prop :=
  (∀ g ∈ E.circuit s t, GateHonest g) ∧ E.ve t = (0, 0, 0)

def macPhase {σ τ : Type} [DecidableEq R] (E : MacEnc σ τ R) : Phase σ τ where
  honest s := E.put s ((E.outs s).map fun i => (plain (E.gs s) []).getD i 0)
  run s t :=
    if validateE (ringAlg R) (E.r s) (E.state s t).acc (E.valErr t) (E.czρ s) (E.czMask s) then
      (collect (openAllM (E.state s t) E.c (E.forged t) (E.outs s) 0)).map (E.put s)
    else none
  -- a deviation is present and the secret batch values `r̂`, `α̂_k`, `ρ̂` satisfy the acceptance equation of
  -- `attack_accept_iff` (for one attacked gate at most `3|F|²−3|F|+1` of the `|F|³` triples: `single_attack_bad_set_card`)
  bad s t := ¬ E.NoDev s t ∧
    rec (E.czMask s) * (termSum (macTerms (rec (E.r s)) (E.circuit s t) [])
      + (errSum (E.valErr t).eu - errSum (E.valErr t).ew * rec (E.r s))) + errSum (E.valErr t).ecz = 0

theorem wire_getD (st : St R) (pl : List R) (hc : ∀ m ∈ st.wires, MConsistent m)
    (hv : st.wires.map (fun m => rec m.x) = pl) (i : Nat) :
    MConsistent (wire (ringAlg R) st i) ∧ rec (wire (ringAlg R) st i).x = pl.getD i 0 := by
  subst hv
  unfold wire
  rw [List.getD_eq_getElem?_getD, List.getD_eq_getElem?_getD, List.getElem?_map]
  cases h : st.wires[i]? with
  | none => exact ⟨(zeroM_props (0 : R)).1, (zeroM_props (0 : R)).2.1⟩
  | some m => exact ⟨hc m (List.mem_of_getElem? h), rfl⟩

theorem revealM_mod [DecidableEq R] (m : MShare R) (c h : Nat) (mL mR : R) :
    revealM (ringAlg R) m c (h % 3) mL mR = revealM (ringAlg R) m c h mL mR := by
  simp only [revealM, revealCorrupt, view, Nat.mod_add_mod, Nat.mod_mod]

theorem openBothM_sound [DecidableEq R] (m : MShare R) (hm : MConsistent m) (c : Nat) (hc : c < 3) (f : R × R) :
    openBothM m c f = none ∨ openBothM m c f = some (rec m.x) := by
  have key (h : Nat) (hne : h % 3 ≠ c) :=
    revealM_mod m c h f.1 f.2 ▸ reveal_two_copies_mac m hm c (h % 3) hc (Nat.mod_lt _ (by decide)) hne f.1 f.2
  unfold openBothM
  rcases key (c + 1) (by omega) with h1 | h1 <;> rcases key (c + 2) (by omega) with h2 | h2 <;> simp [h1, h2]

theorem macPhase_sound {σ τ : Type} [DecidableEq R] (E : MacEnc σ τ R) : (macPhase E).Sound := by
  intro s t
  obtain ⟨hr, hcz, hok⟩ := E.ok s
  have hok' : ∀ g ∈ E.circuit s t, GateOk g := setErrs_ok _ _ _ _ hok
  by_cases hval : validateE (ringAlg R) (E.r s) (E.state s t).acc (E.valErr t) (E.czρ s) (E.czMask s) = true
  · by_cases hnd : E.NoDev s t
    · -- no deviation: the wires are consistent sharings of the plaintext values (`honest_validates`);
      -- each opening fails or returns the value (`reveal_two_copies_mac`)
      obtain ⟨hwire, hplain, -⟩ := honest_validates (E.r s) hr (E.mu s) (E.mw s) (E.circuit s t) hok' hnd.1
        (E.czρ s) (E.czMask s) hcz
      have hw := wire_getD (E.state s t) _ (fun m hm => (hwire m hm).1) (hplain.trans (plain_setErrs _ _ _ _ _))
      rw [show (macPhase E).run s t = _ from if_pos hval]
      exact (collect_checks_none_or (openAllM (E.state s t) E.c (E.forged t))
        (fun i k => openBothM (wire (ringAlg R) (E.state s t) i) E.c (E.forged t k)) (fun _ => rfl) (fun _ _ _ => rfl)
        (fun i => (plain (E.gs s) []).getD i 0) (fun i _ => (hw i).2 ▸ openBothM_sound _ (hw i).1 E.c E.hc _)
        (E.put s) (E.outs s) 0).imp_right .inl
    · exact .inr (.inr ⟨hnd, (attack_accept_iff (E.r s) hr (E.mu s) (E.mw s) (E.circuit s t) hok' (E.valErr t)
        (E.czρ s) (E.czMask s) hcz).mp hval⟩)
  · exact .inl (if_neg hval)

end Mac

end IpaVerif.C02
