import IpaVerif.Props.C16
import IpaVerif.Model.BatcherAtomic
import IpaVerif.Proofs.BatcherAccept
/-!
# C16 — one validator, many threads calling `validate_record`: exactly one of them validates each batch

The synchronous part of `validate_record` runs under ONE acquisition of the batcher mutex (`Model/BatcherAtomic.lean`, tied
to the sources by `Generated/BatcherAtomic.lean`, items `batcher.atomic.*`). The theorems are for every number of calls, all
records and EVERY interleaving of their atomic steps.
-/
namespace IpaVerif.C16Race
open IpaVerif.Batcher IpaVerif.BatcherAtomic IpaVerif.C16

/-- the calls that take effect, in the order in which they do -/
def eff (k : Nat) : List Nat → List Nat → List Nat
  | _, [] => []
  | done, c :: rest => if done.contains c || k ≤ c then eff k done rest else c :: eff k (c :: done) rest

/-- ghost of an interleaved state: accepted records and `Ready::Yes` batches, as `Proofs/BatcherTrace.lean` keeps them -/
def ghostOf (recOf : Nat → Nat) (g0 : Ghost) (t : TState) : Ghost :=
  ⟨accepted recOf t.outs ++ g0.acc, readyLog t.outs ++ g0.closed⟩

theorem skip_iff {k c : Nat} {done : List Nat} : (done.contains c || decide (k ≤ c)) = true ↔ c ∈ done ∨ k ≤ c := by
  rw [Bool.or_eq_true, List.contains_iff_mem, decide_eq_true_iff]

theorem atomicStep_skip {k : Nat} {recOf : Nat → Nat} {t : TState} {c : Nat} (h : c ∈ t.done ∨ k ≤ c) :
    atomicStep k recOf t c = t :=
  if_pos (skip_iff.2 h)

theorem atomicStep_eff {k : Nat} {recOf : Nat → Nat} {t : TState} {c : Nat} (h : ¬ (c ∈ t.done ∨ k ≤ c)) :
    atomicStep k recOf t c =
      ⟨(validateRecord t.s (recOf c)).1, c :: t.done, (c, (validateRecord t.s (recOf c)).2) :: t.outs⟩ :=
  if_neg (mt skip_iff.1 h)

theorem ghostOf_nil (recOf : Nat → Nat) (t : TState) :
    ghostOf recOf {} t = ⟨accepted recOf t.outs, readyLog t.outs⟩ := by
  rw [ghostOf]; exact congr (congrArg _ (List.append_nil _)) (List.append_nil _)

theorem ghost_step (recOf : Nat → Nat) (g0 : Ghost) (t : TState) (c : Nat) :
    ghostOf recOf g0 (⟨(validateRecord t.s (recOf c)).1, c :: t.done, (c, (validateRecord t.s (recOf c)).2) :: t.outs⟩ : TState) =
      ghostStep (ghostOf recOf g0 t) (.validate (recOf c)) (stepOp t.s (.validate (recOf c))).2 := by
  show _ = ghostStep _ _ (.validated (validateRecord t.s (recOf c)).2)
  generalize (validateRecord t.s (recOf c)).2 = o
  cases o <;> rfl

/-- Every interleaving of atomic `validate_record` steps is the sequential history
`validate (recOf c₁), validate (recOf c₂), …` of the calls in the order in which they took effect — so the theorems of
`Props/C16.lean` speak about the concurrent execution too. -/
theorem run_is_history (k : Nat) (recOf : Nat → Nat) (g0 : Ghost) : ∀ (sched : List Nat) (t : TState),
    ((run (atomicStep k recOf) t sched).s, ghostOf recOf g0 (run (atomicStep k recOf) t sched)) =
      execG t.s (ghostOf recOf g0 t) ((eff k t.done sched).map fun c => Op.validate (recOf c)) := by
  intro sched
  induction sched with
  | nil => intro t; rfl
  | cons c rest ih =>
    intro t
    show ((run _ (atomicStep k recOf t c) rest).s, ghostOf recOf g0 (run _ (atomicStep k recOf t c) rest)) = _
    by_cases hc : c ∈ t.done ∨ k ≤ c
    · rw [atomicStep_skip hc, ih t, eff, if_pos (skip_iff.2 hc)]
    · rw [atomicStep_eff hc, ih, eff, if_neg (mt skip_iff.1 hc), ghost_step]
      rfl

theorem run_init_history (k : Nat) (recOf : Nat → Nat) (s : State) (sched : List Nat) :
    ((run (atomicStep k recOf) (init s) sched).s, ghostOf recOf {} (run (atomicStep k recOf) (init s) sched)) =
      execG s {} ((eff k [] sched).map fun c => Op.validate (recOf c)) :=
  run_is_history k recOf {} sched (init s)

theorem closed_nodup {n : Nat} : ∀ (ops : List Op) (s : State) (g : Ghost), Inv n s g → TotalsAgree n ops → g.closed.Nodup →
    (execG s g ops).2.closed.Nodup := by
  intro ops
  induction ops with
  | nil => intro s g _ _ h; exact h
  | cons op rest ih =>
    intro s g hI ht hn
    refine ih _ _ (inv_stepOp hI op fun t m e => ht t m (e ▸ List.mem_cons_self))
      (fun t m h => ht t m (List.mem_cons_of_mem _ h)) ?_
    cases op with
    | get r x => exact hn
    | setTotal t => simp only [stepOp]; split <;> exact hn
    | validate r =>
      show (ghostStep g _ (.validated (validateRecord s r).2)).closed.Nodup
      have hs := validate_step hI r
      generalize validateRecord s r = res at hs
      obtain ⟨s', o⟩ := res
      cases o with
      | err e => exact hn
      | panic p => exact hn
      | notReady b => exact hn
      | ready b st => exact List.nodup_cons.mpr ⟨hs.fresh_batch, hn⟩

theorem totals_validate (n : Nat) (l : List Nat) (f : Nat → Nat) : TotalsAgree n (l.map fun c => Op.validate (f c)) := by
  intro t m h
  obtain ⟨c, _, e⟩ := List.mem_map.mp h
  cases e

/-- A batcher for batches of `rpb > 0` records created with total `n` (or without a total), ANY
calls `validate_record(recOf c)` (legitimate or not: repeated records, records beyond the total, …) and EVERY schedule of their
atomic steps: no batch is answered `Ready::Yes` twice — at most one caller takes the batch out and runs the validation closure. -/
theorem at_most_one_validator (n rpb : Nat) (t0 : Total) (tps : Nat) (hp : 0 < rpb)
    (ht0 : t0 = .specified n ∨ t0 = .indeterminate ∨ t0 = .unspecified)
    (k : Nat) (recOf : Nat → Nat) (sched : List Nat) :
    (readyLog (run (atomicStep k recOf) (init (State.new rpb t0 tps)) sched).outs).Nodup := by
  have hn := closed_nodup (n := n) _ _ _ (inv_new n rpb tps hp t0 ht0) (totals_validate n (eff k [] sched) recOf)
    List.nodup_nil
  rw [← run_init_history, ghostOf_nil] at hn
  exact hn

/-- Setting as in `at_most_one_validator`, total `n`; batch `b` exists; every record
`< n` of `b` is the record of some call that took effect and was accepted (`hacc`): then `b` was answered `Ready::Yes`
EXACTLY once. -/
theorem exactly_one_validator_partial (n rpb : Nat) (t0 : Total) (tps : Nat) (hp : 0 < rpb)
    (ht0 : t0 = .specified n ∨ t0 = .indeterminate ∨ t0 = .unspecified)
    (k : Nat) (recOf : Nat → Nat) (sched : List Nat) (b : Nat) (hb : b * rpb < n)
    (hacc : ∀ r, r < n → r / rpb = b →
      r ∈ accepted recOf (run (atomicStep k recOf) (init (State.new rpb t0 tps)) sched).outs) :
    (readyLog (run (atomicStep k recOf) (init (State.new rpb t0 tps)) sched).outs).count b = 1 := by
  have hnd := at_most_one_validator n rpb t0 tps hp ht0 k recOf sched
  -- all records of `b` accepted ⟹ `b` was handed out (`each_batch_ready_exactly_once` for the history of the run)
  have hex := (each_batch_ready_exactly_once (tps := tps) ⟨hp, ht0, totals_validate n (eff k [] sched) recOf⟩).2.1 b hb
  unfold reach at hex
  rw [← run_init_history, ghostOf_nil] at hex
  have hmem : b ∈ readyLog (run (atomicStep k recOf) (init (State.new rpb t0 tps)) sched).outs := hex hacc
  exact Nat.le_antisymm (List.nodup_iff_count.mp hnd b) (List.count_pos_iff.mpr hmem)

/-- invariant of an interleaved run all of whose calls are legitimate (distinct records below the total) -/
structure Legit (n rpb k : Nat) (recOf : Nat → Nat) (t : TState) : Prop where
  inv : Inv n t.s (ghostOf recOf {} t)
  tot : t.s.total = .specified n
  rpb : t.s.rpb = rpb
  done_lt : ∀ c, c ∈ t.done → c < k
  acc_done : ∀ r, r ∈ accepted recOf t.outs → ∃ c, c ∈ t.done ∧ recOf c = r
  done_acc : ∀ c, c ∈ t.done → recOf c ∈ accepted recOf t.outs
  all_acc : ∀ p, p ∈ t.outs → p.2.isAccepted = true

theorem legit_init (n rpb tps k : Nat) (recOf : Nat → Nat) (hp : 0 < rpb) :
    Legit n rpb k recOf (init (State.new rpb (.specified n) tps)) :=
  ⟨inv_new n rpb tps hp _ (Or.inl rfl), rfl, rfl, fun _ h => (List.not_mem_nil h).elim,
    fun _ h => (List.not_mem_nil h).elim, fun _ h => (List.not_mem_nil h).elim, fun _ h => (List.not_mem_nil h).elim⟩

theorem accepted_cons (recOf : Nat → Nat) (c : Nat) (o : VOut) (outs : List (Nat × VOut)) (h : o.isAccepted = true) :
    accepted recOf ((c, o) :: outs) = recOf c :: accepted recOf outs := by
  cases o with
  | ready _ _ => rfl
  | notReady _ => rfl
  | err _ => cases h
  | panic _ => cases h

theorem legit_step {n rpb k : Nat} {recOf : Nat → Nat} (hlt : ∀ c, c < k → recOf c < n)
    (hinj : ∀ c c', c < k → c' < k → recOf c = recOf c' → c = c') {t : TState} (hL : Legit n rpb k recOf t) (c : Nat) :
    Legit n rpb k recOf (atomicStep k recOf t c) := by
  by_cases hc : c ∈ t.done ∨ k ≤ c
  · rw [atomicStep_skip hc]; exact hL
  rw [atomicStep_eff hc]
  have hcd : c ∉ t.done := fun h => hc (Or.inl h)
  have hck : c < k := Nat.lt_of_not_le fun h => hc (Or.inr h)
  -- the call is legitimate: its record is new (other calls ask for other records), so its batch is still open
  have hna : recOf c ∉ (ghostOf recOf {} t).acc := by
    rw [ghostOf_nil]
    intro hm
    obtain ⟨c', hc', e⟩ := hL.acc_done _ hm
    exact hcd (hinj c' c (hL.done_lt c' hc') hck e ▸ hc')
  have hnc : recOf c / t.s.rpb ∉ (ghostOf recOf {} t).closed := fun hm =>
    hna (hL.inv.closed_records hm _ (hlt c hck) rfl)
  have ha := validate_accepts hL.inv hL.tot (recOf c) (hlt c hck) hna hnc
  have hacc := accepted_cons recOf c _ t.outs ha
  refine ⟨?_, (validateRecord_total _ _).trans hL.tot, (validateRecord_rpb _ _).trans hL.rpb,
    fun c' hc' => (List.mem_cons.1 hc').elim (· ▸ hck) (hL.done_lt c'), fun r hr => ?_, fun c' hc' => ?_,
    fun p hp' => (List.mem_cons.1 hp').elim (· ▸ ha) (hL.all_acc p)⟩
  · rw [ghost_step]
    exact inv_stepOp hL.inv (.validate (recOf c)) nofun
  · rw [hacc] at hr
    rcases List.mem_cons.1 hr with h | h
    · exact ⟨c, List.mem_cons_self, h.symm⟩
    · obtain ⟨c', h1, h2⟩ := hL.acc_done r h
      exact ⟨c', List.mem_cons_of_mem _ h1, h2⟩
  · rw [hacc]
    rcases List.mem_cons.1 hc' with h | h
    · exact h ▸ List.mem_cons_self
    · exact List.mem_cons_of_mem _ (hL.done_acc c' h)

theorem legit_run {n rpb k : Nat} {recOf : Nat → Nat} (hlt : ∀ c, c < k → recOf c < n)
    (hinj : ∀ c c', c < k → c' < k → recOf c = recOf c' → c = c') : ∀ (sched : List Nat) (t : TState),
    Legit n rpb k recOf t → Legit n rpb k recOf (run (atomicStep k recOf) t sched) := by
  intro sched
  induction sched with
  | nil => intro t h; exact h
  | cons c rest ih => intro t h; exact ih _ (legit_step hlt hinj h c)

theorem done_mono (k : Nat) (recOf : Nat → Nat) : ∀ (sched : List Nat) (t : TState) (c : Nat),
    c ∈ t.done → c ∈ (run (atomicStep k recOf) t sched).done := by
  intro sched
  induction sched with
  | nil => intro t c h; exact h
  | cons d rest ih =>
    intro t c h
    refine ih _ c ?_
    by_cases hd : d ∈ t.done ∨ k ≤ d
    · rw [atomicStep_skip hd]; exact h
    · rw [atomicStep_eff hd]; exact List.mem_cons_of_mem _ h

theorem scheduled_done (k : Nat) (recOf : Nat → Nat) : ∀ (sched : List Nat) (t : TState) (c : Nat),
    c ∈ sched → c < k → c ∈ (run (atomicStep k recOf) t sched).done := by
  intro sched
  induction sched with
  | nil => intro t c h; cases h
  | cons d rest ih =>
    intro t c h hk
    rcases List.mem_cons.1 h with rfl | e
    · refine done_mono k recOf rest _ c ?_
      by_cases hc : c ∈ t.done ∨ k ≤ c
      · rw [atomicStep_skip hc]; exact hc.resolve_right (Nat.not_le_of_lt hk)
      · rw [atomicStep_eff hc]; exact List.mem_cons_self
    · exact ih _ c e hk

/-- A batcher for batches of `rpb > 0` records with total `n`; `k` concurrent
calls `validate_record(recOf c)` for pairwise different records below the total; EVERY schedule of their atomic steps in which,
for batch `b`, every record of `b` is asked for by a call that is scheduled at least once: batch `b` is answered
`Ready::Yes` — taken out and handed to the validation closure — by EXACTLY one caller. That each such call is accepted is
`Batcher.validate_accepts` along the invariant `Legit` of the run. -/
theorem exactly_one_validator (n rpb tps : Nat) (hp : 0 < rpb) (k : Nat) (recOf : Nat → Nat) (sched : List Nat)
    (hlt : ∀ c, c < k → recOf c < n)
    (hinj : ∀ c c', c < k → c' < k → recOf c = recOf c' → c = c')
    (b : Nat) (hb : b * rpb < n)
    (hall : ∀ r, r < n → r / rpb = b → ∃ c, c < k ∧ recOf c = r ∧ c ∈ sched) :
    (readyLog (run (atomicStep k recOf) (init (State.new rpb (.specified n) tps)) sched).outs).count b = 1 := by
  refine exactly_one_validator_partial n rpb (.specified n) tps hp (Or.inl rfl) k recOf sched b hb fun r hr hrb => ?_
  obtain ⟨c, hck, rfl, hcs⟩ := hall r hr hrb
  exact (legit_run hlt hinj sched _ (legit_init n rpb tps k recOf hp)).done_acc c (scheduled_done k recOf sched _ c hcs hck)

/-- Same setting (total `n`, `k` calls for pairwise different records below `n`), EVERY
schedule: no call is answered with a panic (`already validated`, `called twice`, `exceeds`, `expected batch`) or an error —
each call that took effect was answered `Ready::No` or `Ready::Yes`. -/
theorem legit_calls_never_refused (n rpb tps : Nat) (hp : 0 < rpb) (k : Nat) (recOf : Nat → Nat) (sched : List Nat)
    (hlt : ∀ c, c < k → recOf c < n)
    (hinj : ∀ c c', c < k → c' < k → recOf c = recOf c' → c = c') :
    ∀ p, p ∈ (run (atomicStep k recOf) (init (State.new rpb (.specified n) tps)) sched).outs → p.2.isAccepted = true :=
  (legit_run hlt hinj sched _ (legit_init n rpb tps k recOf hp)).all_acc

/-- non-vacuity of `exactly_one_validator`: 5 records in batches of 2, five calls for the records 3,0,4,1,2, a schedule
with repetitions and a foreign id — all hypotheses hold for every batch. -/
example :
    (∀ c, c < 5 → [3, 0, 4, 1, 2].getD c 9 < 5) ∧
    (∀ c, c < 5 → ∀ c', c' < 5 → [3, 0, 4, 1, 2].getD c 9 = [3, 0, 4, 1, 2].getD c' 9 → c = c') ∧
    (∀ r, r < 5 → ∃ c, c < 5 ∧ [3, 0, 4, 1, 2].getD c 9 = r ∧ c ∈ [4, 0, 0, 7, 2, 1, 3, 4]) := by
  decide

/-- the hypotheses are satisfiable, and on a concrete instance everything is computed: batches of 2, total 5, six call
ids for the records 3,0,4,1,2 (+ a foreign id), scheduled with repetitions: every batch is answered `Ready::Yes` once. -/
example :
    let recOf : Nat → Nat := fun c => [3, 0, 4, 1, 2].getD c 9
    let t := run (atomicStep 5 recOf) (init (State.new 2 (.specified 5) 8192)) [4, 0, 0, 7, 2, 1, 3, 4]
    readyLog t.outs = [0, 2, 1] ∧ accepted recOf t.outs = [1, 0, 4, 3, 2] := by
  decide

/-- The code's `validate_record` is the atomic step. -/
theorem code_validate_is_atomic : codeIsAtomic = true := by decide

/-- One batch of two records, two callers. Check-then-act (note under one guard, compare under
another), schedule note₀ note₁ decide₀ decide₁: BOTH callers see `pending_count == 2` and take the batch (in the code: the
second `pop_front` removes the NEXT batch and validates it before its records asked, or `expect_not_yet_validated` panics).
The atomic step answers exactly one under the same schedule, and so does the split variant run back to back — which is
why single-threaded suites (`c16_batcher`: all permutations) cannot tell and suite `c16_race` uses real OS threads. -/
theorem split_two_validators :
    ((List.foldl (simpleSplit 2) Simple.init [0, 1, 0, 1]).taken = 2) ∧
    ((List.foldl (simpleAtomic 2) Simple.init [0, 1, 0, 1]).taken = 1) ∧
    ((List.foldl (simpleSplit 2) Simple.init [0, 0, 1, 1]).taken = 1) ∧
    ((List.foldl (simpleCode 2) Simple.init [0, 1, 0, 1]).taken = 1) := by
  decide

theorem simpleAtomic_step_taken (tc : Nat) (s : Simple) (c : Nat)
    (h1 : s.taken = if tc ≤ s.count ∧ 0 < tc then 1 else 0) (h2 : s.count = s.done.length) :
    ((simpleAtomic tc s c).taken = if tc ≤ (simpleAtomic tc s c).count ∧ 0 < tc then 1 else 0) ∧
      (simpleAtomic tc s c).count = (simpleAtomic tc s c).done.length := by
  unfold simpleAtomic
  split
  · exact ⟨h1, h2⟩
  refine ⟨?_, congrArg (· + 1) h2⟩
  show (if (s.count + 1 == tc) = true then s.taken + 1 else s.taken) = if tc ≤ s.count + 1 ∧ 0 < tc then 1 else 0
  by_cases e : s.count + 1 = tc
  · rw [if_pos (beq_iff_eq.2 e), if_pos ⟨e ▸ Nat.le_refl _, e ▸ Nat.succ_pos _⟩, h1,
      if_neg fun h => Nat.not_succ_le_self _ (e ▸ h.1)]
  · have hiff : (tc ≤ s.count + 1 ∧ 0 < tc) ↔ (tc ≤ s.count ∧ 0 < tc) :=
      and_congr_left fun _ => ⟨fun h => Nat.le_of_lt_succ (Nat.lt_of_le_of_ne h (Ne.symm e)), Nat.le_succ_of_le⟩
    rw [if_neg (mt beq_iff_eq.1 e), h1]
    simp only [hiff]

/-- the atomic one-batch abstraction: however `tc` distinct calls are scheduled, the batch is taken exactly when the
`tc`-th request is noted. -/
theorem simple_atomic_taken (tc : Nat) : ∀ (sched : List Nat) (s : Simple),
    (s.taken = if tc ≤ s.count ∧ 0 < tc then 1 else 0) → s.count = s.done.length →
    let s' := List.foldl (simpleAtomic tc) s sched
    (s'.taken = if tc ≤ s'.count ∧ 0 < tc then 1 else 0) ∧ s'.count = s'.done.length := by
  intro sched
  induction sched with
  | nil => intro s h1 h2; exact ⟨h1, h2⟩
  | cons c rest ih =>
    intro s h1 h2
    obtain ⟨h3, h4⟩ := simpleAtomic_step_taken tc s c h1 h2
    exact ih _ h3 h4

end IpaVerif.C16Race
