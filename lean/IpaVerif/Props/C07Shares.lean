import IpaVerif.Model.Circuits
import Mathlib.Tactic.Ring
import Mathlib.Algebra.Ring.BooleanRing
/-!
# C07 — share level: the interactive multiplication reconstructs to the product and stays consistent

`mul_reconstruct` / `mul_consistent` over an arbitrary commutative ring (hence every `Field` impl, given the
C08 homomorphism of its operators into a ring) and over `Boolean` (xor / and, itself such a ring).
-/
namespace IpaVerif.C07
open IpaVerif.Sharing IpaVerif.Circuits

def ringAlg (R : Type) [CommRing R] : Alg R :=
  { zero := 0, one := 1, add := (· + ·), sub := (· - ·), mul := (· * ·), neg := (- ·) }

/-- for consistent sharings of `x`, `y` and ANY PRSS masks (helper `i`'s right mask =
helper `i+1`'s left mask), the output of `multiplication_protocol` reconstructs to `x · y`: the masks cancel. -/
theorem mul_reconstruct {R : Type} [CommRing R] (ρ : Masks R) (x y : World R)
    (hx : Consistent x) (hy : Consistent y) :
    reconstruct (ringAlg R) (mulS (ringAlg R) ρ x y)
      = reconstruct (ringAlg R) x * reconstruct (ringAlg R) y := by
  obtain ⟨hx1, hx2, hx3⟩ := hx
  obtain ⟨hy1, hy2, hy3⟩ := hy
  simp only [reconstruct, mulS, zLeft, ringAlg, hx1, hx2, hx3, hy1, hy2, hy3]
  ring

/-- non-vacuity: a consistent sharing exists for every value and every choice of two random shares. -/
example {R : Type} [CommRing R] (x r1 r2 : R) :
    Consistent (share (ringAlg R) x r1 r2) ∧ reconstruct (ringAlg R) (share (ringAlg R) x r1 r2) = x := by
  refine ⟨⟨rfl, rfl, rfl⟩, ?_⟩
  simp only [reconstruct, share, ofShares, ringAlg]; ring

/-- the output of the multiplication is a consistent sharing for ANY inputs and masks
(each `z_left` is delivered unchanged to the left neighbour). -/
theorem mul_consistent {F : Type} (A : Alg F) (ρ : Masks F) (x y : World F) : Consistent (mulS A ρ x y) :=
  ⟨rfl, rfl, rfl⟩

/-- The Boolean instance of `mul_reconstruct`: `Bool` with xor / and is a commutative ring (Mathlib's `BooleanRing Bool`)
whose operations are definitionally those of `boolAlg`. -/
theorem mul_reconstruct_bool (ρ : Masks Bool) (x y : World Bool) (hx : Consistent x) (hy : Consistent y) :
    reconstruct boolAlg (mulS boolAlg ρ x y) = (reconstruct boolAlg x && reconstruct boolAlg y) :=
  mul_reconstruct ρ x y hx hy

theorem add_reconstruct {R : Type} [CommRing R] (x y : World R) :
    reconstruct (ringAlg R) (addS (ringAlg R) x y) = reconstruct (ringAlg R) x + reconstruct (ringAlg R) y := by
  simp only [reconstruct, addS, map2, ringAlg]; ring
theorem sub_reconstruct {R : Type} [CommRing R] (x y : World R) :
    reconstruct (ringAlg R) (subS (ringAlg R) x y) = reconstruct (ringAlg R) x - reconstruct (ringAlg R) y := by
  simp only [reconstruct, subS, map2, ringAlg]; ring
theorem neg_reconstruct {R : Type} [CommRing R] (x : World R) :
    reconstruct (ringAlg R) (negS (ringAlg R) x) = - reconstruct (ringAlg R) x := by
  simp only [reconstruct, negS, map1, ringAlg]; ring
theorem mulConst_reconstruct {R : Type} [CommRing R] (c : R) (x : World R) :
    reconstruct (ringAlg R) (mulConstS (ringAlg R) c x) = reconstruct (ringAlg R) x * c := by
  simp only [reconstruct, mulConstS, map1, ringAlg]; ring
theorem known_reconstruct {R : Type} [CommRing R] (v : R) :
    reconstruct (ringAlg R) (knownS (ringAlg R) v) = v ∧ Consistent (knownS (ringAlg R) v) := by
  refine ⟨?_, rfl, rfl, rfl⟩
  simp only [reconstruct, knownS, ringAlg]; ring
theorem map2_consistent {F : Type} (f : F → F → F) (x y : World F) (hx : Consistent x) (hy : Consistent y) :
    Consistent (map2 f x y) :=
  ⟨congrArg₂ f hx.1 hy.1, congrArg₂ f hx.2.1 hy.2.1, congrArg₂ f hx.2.2 hy.2.2⟩
theorem map1_consistent {F : Type} (f : F → F) (x : World F) (hx : Consistent x) : Consistent (map1 f x) :=
  ⟨congrArg f hx.1, congrArg f hx.2.1, congrArg f hx.2.2⟩

/-- `or` over a ring: for `a, b ∈ {0,1}` the result reconstructs to `a + b − ab` (the Boolean or). -/
theorem or_reconstruct {R : Type} [CommRing R] (ρ : Masks R) (a b : World R)
    (ha : Consistent a) (hb : Consistent b) :
    reconstruct (ringAlg R) (orS (ringAlg R) ρ a b)
      = reconstruct (ringAlg R) a + reconstruct (ringAlg R) b - reconstruct (ringAlg R) a * reconstruct (ringAlg R) b := by
  unfold orS
  rw [add_reconstruct, add_reconstruct, neg_reconstruct, mul_reconstruct ρ a b ha hb]; ring

/-- `Reshare` towards any helper returns a consistent sharing of the same value, for any masks
(only the two components of `L = to_helper.left` and the left component of `R = to_helper.right` are read,
so it even repairs an inconsistent component of `to_helper` itself). -/
theorem reshare_value {R : Type} [CommRing R] (ρ : Masks R) (t : Nat) (ht : t = 1 ∨ t = 2 ∨ t = 3)
    (w : World R) (hw : Consistent w) :
    Consistent (reshareS (ringAlg R) ρ t w) ∧
    reconstruct (ringAlg R) (reshareS (ringAlg R) ρ t w) = reconstruct (ringAlg R) w := by
  obtain ⟨h1, h2, h3⟩ := hw
  rcases ht with rfl | rfl | rfl
  all_goals
    refine ⟨⟨rfl, rfl, rfl⟩, ?_⟩
    simp only [reconstruct, reshareS, reshareCore, ringAlg, h1, h2, h3]
    ring

end IpaVerif.C07
