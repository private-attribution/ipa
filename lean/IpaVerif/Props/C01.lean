import IpaVerif.Proofs.C01Shard
/-!
# C01 — hybrid attribution result equals the in-the-clear reference

`spec` (Model/Hybrid.lean) is written from the statement of the property; `pipeline` transcribes the
stages of `hybrid_protocol`. Main theorem: `pipeline_eq_spec`; completion (F8): `query_completes_with_spec`.
-/
namespace IpaVerif.C01
open IpaVerif.Hybrid

theorem dedupKeys_eq_dedup : ∀ ks : List Nat, dedupKeys ks = ks.dedup
  | [] => rfl
  | k :: ks => by
      rw [dedupKeys, dedupKeys_eq_dedup ks]
      by_cases h : k ∈ ks
      · rw [if_pos (List.mem_dedup.mpr h), List.dedup_cons_of_mem h]
      · rw [if_neg (mt List.mem_dedup.mp h), List.dedup_cons_of_notMem h]

/-- the specification's per-bucket total as a key-wise sum. -/
theorem specBucket_eq (w : Widths) (input : List Rec) (b : Nat) :
    specBucket w input b = min (keySum w input b) (2 ^ w.hvW - 1) := by
  rw [specBucket, dedupKeys_eq_dedup, keySum, ← List.toFinset.ext fun _ => List.mem_dedup,
    List.sum_toFinset _ (List.nodup_dedup _)]
  simp only [keyBucketValue_eq_listVal]

theorem keyRows_append (l l' : List Rec) (k : Nat) : keyRows (l ++ l') k = keyRows l k ++ keyRows l' k :=
  List.filter_append ..

theorem keyRows_eq_nil {l : List Rec} {k : Nat} (h : ∀ r ∈ l, r.key ≠ k) : keyRows l k = [] :=
  List.filter_eq_nil_iff.mpr fun r hr => by simpa using h r hr

theorem listVal_zero (w : Widths) (b : Nat) : ∀ l : List Rec, (∀ r ∈ l, r.v = 0) → listVal w b l = 0
  | [], _ | [_], _ | _ :: _ :: _ :: _, _ => rfl
  | [r1, r2], h => by
      rw [listVal, h r1 List.mem_cons_self, h r2 (List.mem_cons_of_mem _ List.mem_cons_self), Nat.zero_mod, ite_self]

theorem keySum_append_zero (w : Widths) (input dummies : List Rec) (b : Nat)
    (hzero : ∀ r ∈ dummies, r.v = 0) (hfresh : ∀ r ∈ dummies, ∀ r' ∈ input, r'.key ≠ r.key) :
    keySum w (input ++ dummies) b = keySum w input b := by
  have hdisj : Disjoint (input.map (·.key)).toFinset (dummies.map (·.key)).toFinset := by
    rw [List.disjoint_toFinset_iff_disjoint]
    intro k hk hk'
    obtain ⟨r', hr', rfl⟩ := List.mem_map.mp hk
    obtain ⟨r, hr, h⟩ := List.mem_map.mp hk'
    exact hfresh r hr r' hr' h.symm
  -- a key of the input meets no dummy; a dummy key meets dummies only, and they carry no value
  have hin : ∑ k ∈ (input.map (·.key)).toFinset, listVal w b (keyRows (input ++ dummies) k) = keySum w input b :=
    Finset.sum_congr rfl fun k hk => by
      obtain ⟨r', hr', rfl⟩ := List.mem_map.mp (List.mem_toFinset.mp hk)
      rw [keyRows_append, keyRows_eq_nil fun r hr h => hfresh r hr r' hr' h.symm, List.append_nil]
  have hd : ∑ k ∈ (dummies.map (·.key)).toFinset, listVal w b (keyRows (input ++ dummies) k) = 0 :=
    Finset.sum_eq_zero fun k hk => by
      obtain ⟨r, hr, rfl⟩ := List.mem_map.mp (List.mem_toFinset.mp hk)
      rw [keyRows_append, keyRows_eq_nil fun r' hr' => hfresh r hr r' hr', List.nil_append]
      exact listVal_zero w b _ fun r' hr' => hzero r' (List.mem_filter.mp hr').1
  rw [keySum, List.map_append, List.toFinset_append, Finset.sum_union hdisj, hin, hd, Nat.add_zero]

/-- OPRF-padding dummies (fresh keys, zero payload) do not change any key-wise total. -/
theorem keySum_append_fresh (w : Widths) (input dummies : List Rec) (b : Nat)
    (hzero : ∀ r ∈ dummies, r.bk = 0 ∧ r.v = 0)
    (hfresh : ∀ r ∈ dummies, ∀ r' ∈ input, r'.key ≠ r.key) :
    keySum w (input ++ dummies) b = keySum w input b :=
  keySum_append_zero w input dummies b (fun r hr => (hzero r hr).2) hfresh

/-- **C01, main theorem, relational form.** The two shuffles (with their DP padding) are arbitrary
relations: `afterShuffle1` is any assignment to ≥ 1 shards of any permutation of the input plus fresh
zero-payload dummies, `afterShuffle2` any assignment to shards of any permutation of the aggregated rows
of all shards plus zero-value dummies. The leader's histogram equals the in-the-clear specification. -/
theorem pipeline_eq_spec_rel (w : Widths) (chunk : Nat) (f : Nat → Nat)
    (input dummies1 : List Rec) (afterShuffle1 : List (List Rec))
    (afterShuffle2 : List (List Row)) (dummies2 : List Row)
    (hshards : 0 < afterShuffle1.length)
    (hsh1 : afterShuffle1.flatten.Perm (input ++ dummies1))
    (hzero : ∀ r ∈ dummies1, r.bk = 0 ∧ r.v = 0)
    (hfresh : ∀ r ∈ dummies1, ∀ r' ∈ input, r'.key ≠ r.key)
    (hf : ∀ r ∈ input ++ dummies1, ∀ r' ∈ input ++ dummies1, f r.key = f r'.key → r.key = r'.key)
    (hsh2 : afterShuffle2.flatten.Perm
      (((List.range afterShuffle1.length).map
        (fun d => aggregateReports w (reshardByPrf afterShuffle1.length f afterShuffle1 d))).flatten ++ dummies2))
    (hd2 : ∀ r ∈ dummies2, r.2 = 0) :
    finalize w (afterShuffle2.map (shardHistogram w chunk)) = spec w input := by
  unfold spec
  rw [finalize_shardHistograms]
  apply List.map_congr_left
  intro b _
  rw [specBucket_eq, bucketSum_perm hsh2 b, bucketSum_append, bucketSum_zero dummies2 hd2 b, Nat.add_zero,
    shardedSum w afterShuffle1.length hshards f afterShuffle1
      (fun r hr r' hr' => hf r (hsh1.mem_iff.mp hr) r' (hsh1.mem_iff.mp hr')) b,
    keySum_perm w b hsh1, keySum_append_fresh w input dummies1 b hzero hfresh]

/-- **C01, main theorem.** For every input, every number of shards ≥ 1 and assignment of records to
shards, both shuffles (arbitrary permutations across shards), any PRF injective on the match keys
present, any OPRF-padding dummies (fresh keys, zero payload) and aggregation-padding dummies (zero
value), the histogram computed by the pipeline equals the in-the-clear specification. -/
theorem pipeline_eq_spec (w : Widths) (chunk : Nat) (f : Nat → Nat)
    (input dummies1 : List Rec) (afterShuffle1 : List (List Rec))
    (shuffle2 : List (List Row) → List (List Row)) (dummies2 : List Row)
    (hshards : 0 < afterShuffle1.length)
    (hsh1 : afterShuffle1.flatten.Perm (input ++ dummies1))
    (hzero : ∀ r ∈ dummies1, r.bk = 0 ∧ r.v = 0)
    (hfresh : ∀ r ∈ dummies1, ∀ r' ∈ input, r'.key ≠ r.key)
    (hf : ∀ r ∈ input ++ dummies1, ∀ r' ∈ input ++ dummies1, f r.key = f r'.key → r.key = r'.key)
    (hsh2 : ∀ rows, (shuffle2 rows).flatten.Perm (rows.flatten ++ dummies2))
    (hd2 : ∀ r ∈ dummies2, r.2 = 0) :
    pipeline w chunk f afterShuffle1 shuffle2 = spec w input := by
  unfold pipeline
  exact pipeline_eq_spec_rel w chunk f input dummies1 afterShuffle1 _ dummies2 hshards hsh1 hzero hfresh hf
    (hsh2 _) hd2

/-- Corollary used by the driver: the canonical run (no dummies, identity shuffles, identity PRF) on
any assignment of the records to ≥ 1 shards equals the specification of the flattened input. -/
theorem run_eq_spec (w : Widths) (chunk : Nat) (shards : List (List Rec)) (h : 0 < shards.length) :
    run w chunk shards = spec w shards.flatten := by
  unfold run
  split
  · rename_i hempty
    have hz : ∀ b, specBucket w [] b = 0 := fun b => Nat.zero_min _
    rw [List.isEmpty_iff.mp (Bool.and_eq_true_iff.mp hempty).2, spec, List.map_congr_left (fun b _ => hz b),
      List.map_const', List.length_range]
  · exact pipeline_eq_spec w chunk id shards.flatten [] shards id [] h (by rw [List.append_nil])
      (fun _ hr => nomatch hr) (fun _ hr => nomatch hr) (fun _ _ _ _ h => h)
      (fun rows => by rw [List.append_nil]; rfl) (fun _ hr => nomatch hr)

/-- Whenever the modelled query completes — under any step function — its result is the specification. -/
theorem runOutcome_eq_spec (steps : Counts → List Coll × Exit) (w : Widths) (chunk : Nat) (shards : List (List Rec))
    (obs : List Counts) (h : 0 < shards.length)
    (res : List Nat) (hres : runOutcomeWith steps w chunk shards obs = some res) : res = spec w shards.flatten := by
  unfold runOutcomeWith at hres
  split at hres
  · cases hres; exact run_eq_spec w chunk shards h
  · cases hres

theorem allJoin_cons (t : List Coll × Exit) (ts : List (List Coll × Exit)) :
    allJoin (t :: ts) = true ↔ t.2 = .ok ∧ ∀ u ∈ ts, u = t := by
  simp only [allJoin, Bool.and_eq_true, beq_iff_eq, List.all_eq_true]

theorem allJoin_map_const (steps : Counts → List Coll × Exit) (s : List Coll) (obs : List Counts)
    (h : ∀ c ∈ obs, steps c = (s, .ok)) : allJoin (obs.map steps) = true := by
  cases obs with
  | nil => rfl
  | cons c cs =>
    rw [List.map_cons, allJoin_cons, h c List.mem_cons_self]
    refine ⟨rfl, fun u hu => ?_⟩
    obtain ⟨c', hc', rfl⟩ := List.mem_map.mp hu
    exact h c' (List.mem_cons_of_mem _ hc')

/-- Under `collSteps` every shard takes part in every collective step, whatever it holds. -/
theorem collSteps_allJoin (n : Nat) (obs : List Counts) (hn : 0 < n) (hobs : obs.length = n) :
    allJoin (obs.map (collSteps n)) = true := by
  by_cases h1 : n = 1
  · subst h1
    match obs, hobs with
    | [c], _ =>
      refine (allJoin_cons _ _).mpr ⟨?_, fun _ hu => nomatch hu⟩
      unfold collSteps
      split <;> rfl
  · exact allJoin_map_const _ _ obs fun c _ => if_neg fun h => h1 h.2

/-- **C01, completion (F8 repaired).** For every input, every number of shards ≥ 1, every assignment
of the reports to the shards — including shards without any row — and whatever row counts the shards
observe after the two shuffles and after pairing (shards running empty at any stage), the query
completes and its result is the in-the-clear specification. -/
theorem query_completes_with_spec (w : Widths) (chunk : Nat) (shards : List (List Rec)) (obs : List Counts)
    (h : 0 < shards.length) (hobs : obs.length = shards.length) :
    runOutcome w chunk shards obs = some (spec w shards.flatten) := by
  unfold runOutcome runOutcomeWith
  rw [collSteps_allJoin shards.length obs h hobs, if_pos rfl, run_eq_spec w chunk shards h]

/-- so `query_completes_with_spec` applies to the observations the driver passes
(`runOutcome … (canonicalCounts w shards)` in `Driver/C01.lean`). -/
theorem canonicalCounts_length (w : Widths) (shards : List (List Rec)) :
    (canonicalCounts w shards).length = shards.length := by
  simp [canonicalCounts]

theorem collStepsUnfixed_enters (c : Counts) (h : c.entry ≠ 0) : Coll.inputShuffle ∈ (collStepsUnfixed c).1 := by
  fun_cases collStepsUnfixed c with
  | case1 h0 => exact absurd h0 h
  | case2 | case3 | case4 | case5 => exact List.mem_cons_self

/-- F8: `query_completes_with_spec` fails for `collStepsUnfixed`. With two shards and all four reports on the
first, the second shard returns at once and the first waits for it in the input shuffle forever — whatever
the first shard observes later. -/
theorem runOutcomeUnfixed_counterexample (c0 c1 : Counts) (h0 : c0.entry = 4) (h1 : c1.entry = 0) :
    runOutcomeUnfixed { bkW := 8, vW := 3, hvW := 32, buckets := 256 } 8
      [[⟨1, 2, 0⟩, ⟨1, 0, 3⟩, ⟨2, 2, 0⟩, ⟨2, 0, 4⟩], []] [c0, c1] = none := by
  refine if_neg fun h => ?_
  -- shard 1 enters no collective step, shard 0 at least the input shuffle
  have h01 : collStepsUnfixed c1 = collStepsUnfixed c0 := ((allJoin_cons _ _).mp h).2 _ List.mem_cons_self
  have hin := collStepsUnfixed_enters c0 (by rw [h0]; decide)
  rw [← h01, collStepsUnfixed, if_pos h1] at hin
  cases hin

/-- F8, later exits: under `collStepsUnfixed` a shard that the input shuffle, the pairing or the second shuffle
leaves without rows although it entered with rows also drops out of the collective steps. -/
theorem runOutcomeUnfixed_counterexample_late :
    allJoin ([⟨2, 2, 1, 1⟩, ⟨2, 2, 1, 1⟩, ⟨1, 1, 0, 0⟩].map collStepsUnfixed) = false ∧
    allJoin ([⟨2, 3, 1, 1⟩, ⟨2, 0, 0, 0⟩].map collStepsUnfixed) = false ∧
    allJoin ([⟨2, 2, 1, 2⟩, ⟨2, 2, 1, 0⟩].map collStepsUnfixed) = false := by decide

/-- under `collStepsUnfixed` the query does complete with the specification when no shard runs empty anywhere. -/
theorem runOutcomeUnfixed_of_nonempty (w : Widths) (chunk : Nat) (shards : List (List Rec)) (obs : List Counts)
    (h : 0 < shards.length)
    (hne : ∀ c ∈ obs, c.entry ≠ 0 ∧ c.afterShuffle1 ≠ 0 ∧ c.pairs ≠ 0 ∧ c.afterShuffle2 ≠ 0) :
    runOutcomeUnfixed w chunk shards obs = some (spec w shards.flatten) := by
  have hj : allJoin (obs.map collStepsUnfixed) = true :=
    allJoin_map_const _ _ obs fun c hc => by
      obtain ⟨h1, h2, h3, h4⟩ := hne c hc
      rw [collStepsUnfixed, if_neg h1, if_neg h2, if_neg h3, if_neg h4]
  unfold runOutcomeUnfixed runOutcomeWith
  rw [hj, if_pos rfl, run_eq_spec w chunk shards h]

/-- Non-vacuity: a 3-shard input with a duplicate conversion pair, a triple, a lone impression,
colliding breakdown sums and wrap-around, an EMPTY shard, and the canonical counts: the result is not all zero. -/
example :
    let w : Widths := { bkW := 8, vW := 3, hvW := 8, buckets := 4 }
    let shards : List (List Rec) := [[⟨1, 2, 0⟩, ⟨9, 0, 7⟩, ⟨5, 3, 0⟩, ⟨1, 0, 3⟩, ⟨9, 0, 7⟩, ⟨7, 1, 0⟩], [], [⟨7, 255, 0⟩, ⟨4, 1, 0⟩, ⟨7, 0, 1⟩, ⟨8, 2, 0⟩, ⟨8, 0, 5⟩]]
    runOutcome w 2 shards (canonicalCounts w shards) = some [6, 0, 8, 0] ∧
    runOutcomeUnfixed w 2 shards (canonicalCounts w shards) = none := by
  decide

end IpaVerif.C01
