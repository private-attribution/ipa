import IpaVerif.Props.C03Order
import IpaVerif.Model.DzkpAtomic
/-!
# C03 — "honest batches are accepted" when the multiplications of a batch report CONCURRENTLY

`DZKPUpgraded::push` extends the proof batch of the record under ONE acquisition of the batcher mutex
(`Model/DzkpAtomic.lean`, tied to the sources by `Generated/DzkpAtomic.lean`, items `dzkp.atomic.*`), so for every number of
calls, all gates / records / segments and every interleaving of the calls on a helper the stored tables are those of the
in-order single-threaded run — the tables all other C03 theorems speak about. With fetch and store under separate lock
acquisitions two concurrent pushes of two records of one batch lose one record's segment (the table then differs from what
the other two helpers hold, and the honest batch is rejected), although run back to back the split variant is
indistinguishable from the atomic one.
-/
namespace IpaVerif.C03Race
open IpaVerif.DzkpStore IpaVerif.DzkpValidator IpaVerif.DzkpAtomic IpaVerif.Generated.DzkpValidator IpaVerif.C03Order

theorem eff_skip {k : Nat} {done : List Nat} {c : Nat} (h : (done.contains c || decide (k ≤ c)) = true) (rest : List Nat) :
    eff k done (c :: rest) = eff k done rest := by simp only [eff, h, if_true]

theorem eff_take {k : Nat} {done : List Nat} {c : Nat} (h : ¬ (done.contains c || decide (k ≤ c)) = true) (rest : List Nat) :
    eff k done (c :: rest) = c :: eff k (c :: done) rest := by simp only [eff, h]; rfl

/-- the atomic run, seen through its tables, is the single-threaded run of the effective order -/
theorem run_atomic (k : Nat) (opOf : Nat → DzkpAtomic.Op) : ∀ (sched : List Nat) (s : State) (t' : Tables),
    s.t.pushAll ((eff k s.done sched).map opOf) = .ok t' →
    ∃ s', run (atomicStep k opOf) s sched = .ok s' ∧ s'.t = t' ∧ s'.done = (eff k s.done sched).reverse ++ s.done := by
  intro sched
  induction sched with
  | nil =>
    intro s t' h
    simp only [eff, List.map_nil, Tables.pushAll, Outcome.ok.injEq] at h
    exact ⟨s, rfl, h, by simp [eff]⟩
  | cons c rest ih =>
    intro s t' h
    by_cases hc : (s.done.contains c || decide (k ≤ c)) = true
    · rw [eff_skip hc] at h ⊢
      have hs : atomicStep k opOf s c = .ok s := by simp only [atomicStep, hc, if_true]
      simp only [run, hs]
      exact ih s t' h
    · rw [eff_take hc] at h ⊢
      rcases hop : opOf c with ⟨g, r, sg⟩
      simp only [List.map_cons, hop, Tables.pushAll] at h
      cases hp : s.t.push g r sg with
      | panic m => rw [hp] at h; exact absurd h (by simp)
      | ok t1 =>
        rw [hp] at h
        have hs : atomicStep k opOf s c = .ok { s with t := t1, done := c :: s.done } := by
          simp only [atomicStep, hc, hop, hp]; rfl
        simp only [run, hs]
        obtain ⟨s', e1, e2, e3⟩ := ih { s with t := t1, done := c :: s.done } t' h
        exact ⟨s', e1, e2, by rw [e3]; simp⟩

theorem run_atomic_fetched (k : Nat) (opOf : Nat → DzkpAtomic.Op) : ∀ (sched : List Nat) (s s' : State),
    run (atomicStep k opOf) s sched = .ok s' → s'.fetched = s.fetched := by
  intro sched
  induction sched with
  | nil => intro s s' h; simp only [run, Outcome.ok.injEq] at h; rw [← h]
  | cons c rest ih =>
    intro s s' h
    simp only [run] at h
    cases hc : atomicStep k opOf s c with
    | panic m => rw [hc] at h; exact absurd h (by simp)
    | ok s1 =>
      rw [hc] at h
      have h1 : s1.fetched = s.fetched := by
        unfold atomicStep at hc
        split at hc
        · injection hc with hc; rw [← hc]
        · split at hc
          · injection hc with hc; rw [← hc]
          · exact absurd hc (by simp)
      rw [ih s1 s' h, h1]

theorem skip_iff {k : Nat} {done : List Nat} {c : Nat} : (done.contains c || decide (k ≤ c)) = true ↔ c ∈ done ∨ k ≤ c := by
  simp

theorem mem_eff (k : Nat) : ∀ (sched done : List Nat) (c : Nat), c ∈ eff k done sched ↔ c ∈ sched ∧ c < k ∧ c ∉ done := by
  intro sched
  induction sched with
  | nil => intro done c; simp [eff]
  | cons a rest ih =>
    intro done c
    by_cases hc : (done.contains a || decide (k ≤ a)) = true
    · rw [eff_skip hc, ih, List.mem_cons]
      rw [skip_iff] at hc
      constructor
      · exact fun ⟨h1, h2⟩ => ⟨Or.inr h1, h2⟩
      · rintro ⟨rfl | h1, h2, h3⟩
        · rcases hc with hc | hc
          · exact absurd hc h3
          · omega
        · exact ⟨h1, h2, h3⟩
    · rw [eff_take hc, List.mem_cons, ih, List.mem_cons, List.mem_cons]
      rw [skip_iff, not_or] at hc
      constructor
      · rintro (rfl | ⟨h1, h2, h3⟩)
        · exact ⟨Or.inl rfl, by omega, hc.1⟩
        · exact ⟨Or.inr h1, h2, fun x => h3 (Or.inr x)⟩
      · rintro ⟨rfl | h1, h2, h3⟩
        · exact Or.inl rfl
        · by_cases e : c = a
          · exact Or.inl e
          · exact Or.inr ⟨h1, h2, fun x => x.elim e h3⟩

theorem nodup_eff (k : Nat) : ∀ (sched done : List Nat), (eff k done sched).Nodup := by
  intro sched
  induction sched with
  | nil => intro done; simp [eff]
  | cons a rest ih =>
    intro done
    by_cases hc : (done.contains a || decide (k ≤ a)) = true
    · rw [eff_skip hc]; exact ih done
    · rw [eff_take hc]
      exact List.nodup_cons.mpr ⟨fun h => ((mem_eff k rest _ a).1 h).2.2 List.mem_cons_self, ih _⟩

theorem eff_perm_range (k : Nat) (sched : List Nat) (hall : ∀ i < k, i ∈ sched) : (List.range k).Perm (eff k [] sched) := by
  refine (List.perm_ext_iff_of_nodup List.nodup_range (nodup_eff k sched [])).mpr (fun a => ?_)
  rw [mem_eff, List.mem_range]
  exact ⟨fun h => ⟨hall a h, h, List.not_mem_nil⟩, fun h => h.2.1⟩

/-- One helper, a validator for batches of `rpb` records (`rpb ≠ usize::MAX`: every
`validate_record`-style validator), `k` concurrent `push` calls — call `i` pushes `opOf i = (gate, record, segment)`, one call
per (gate, record), the segments of a gate of one supported width, any number of batches and gates — and EVERY schedule of
their atomic steps in which each call is scheduled at least once: no assertion fires, every call returns, and for every
batch and gate the stored table is the one of the single-threaded in-order run. -/
theorem concurrent_push_eq_sequential (rpb : Nat) (hpos : 0 < rpb) (hmax : rpb ≠ usizeMax) (w : String → Nat)
    (k : Nat) (opOf : Nat → DzkpAtomic.Op)
    (hw : ∀ i < k, (opOf i).2.2.width = w (opOf i).1 ∧ segmentOk (opOf i).2.2 = true)
    (hone : ∀ i < k, ∀ j < k, i ≠ j → ¬ ((opOf i).1 = (opOf j).1 ∧ (opOf i).2.1 = (opOf j).2.1))
    (sched : List Nat) (hall : ∀ i < k, i ∈ sched) :
    ∃ s tseq, run (atomicStep k opOf) (init (Tables.new rpb)) sched = .ok s ∧
      (Tables.new rpb).pushAll ((List.range k).map opOf) = .ok tseq ∧
      (∀ b g, s.t.store b g = tseq.store b g) ∧ (∀ i < k, i ∈ s.done) ∧ s.fetched = [] := by
  have hp := (eff_perm_range k sched hall).map opOf
  have hw' : ∀ op ∈ (List.range k).map opOf, op.2.2.width = w op.1 ∧ segmentOk op.2.2 = true := by
    intro op h
    obtain ⟨i, hi, e⟩ := List.mem_map.mp h
    subst e
    exact hw i (List.mem_range.mp hi)
  have hone' : ((List.range k).map opOf).Pairwise fun x y => ¬ (x.1 = y.1 ∧ x.2.1 = y.2.1) := by
    rw [List.pairwise_map]
    exact List.Pairwise.imp_of_mem (fun {a b} ha hb hne => hone a (List.mem_range.mp ha) b (List.mem_range.mp hb) hne)
      (List.nodup_range (n := k))
  obtain ⟨t₁, t₂, h1, h2, hs⟩ := push_order_irrelevant rpb hpos hmax w _ _ hp hw' hone'
  obtain ⟨s', e1, e2, e3⟩ := run_atomic k opOf sched (init (Tables.new rpb)) t₂ h2
  refine ⟨s', t₁, e1, h1, fun b g => by rw [e2]; exact (hs b g).symm, ?_, ?_⟩
  · intro i hi
    rw [e3]
    exact List.mem_append_left _ (List.mem_reverse.mpr ((mem_eff k sched [] i).2 ⟨hall i hi, hi, List.not_mem_nil⟩))
  · exact run_atomic_fetched k opOf sched _ _ e1

/-- the hypotheses are satisfiable in a non-trivial way: two gates of different widths, two batches of two records, every
call scheduled (some twice), a foreign id in the schedule. -/
example :
    let s3 : Segment := { width := 3, xl := 5, xr := 1, yl := 7, yr := 0, pl := 2, pr := 3, zr := 6 }
    let s256 : Segment := { width := 256, xl := 2 ^ 255 + 1, xr := 1, yl := 7, yr := 0, pl := 2, pr := 3, zr := 6 }
    let opOf : Nat → DzkpAtomic.Op := fun i => (if i % 2 = 0 then "a" else "b", i / 2, if i % 2 = 0 then s3 else s256)
    let w : String → Nat := fun g => if g = "a" then 3 else 256
    (∀ i < 8, (opOf i).2.2.width = w (opOf i).1 ∧ segmentOk (opOf i).2.2 = true) ∧
    (∀ i < 8, ∀ j < 8, i ≠ j → ¬ ((opOf i).1 = (opOf j).1 ∧ (opOf i).2.1 = (opOf j).2.1)) ∧
    (∀ i < 8, i ∈ [7, 3, 3, 9, 0, 6, 1, 5, 2, 4, 7]) ∧ (2 : Nat) ≠ usizeMax := by
  refine ⟨by decide, by decide, by decide, by decide⟩

/-- the code's `push` is the atomic step (generated constants: one `with_batch`, nothing copied out, nothing stored back,
one lock, closure under the guard, in-place update). -/
theorem code_push_is_atomic : codeIsAtomic = true := by decide

/-- `concurrent_push_eq_sequential` for `DZKPUpgraded::push` as the code has it. -/
theorem concurrent_push_code (rpb : Nat) (hpos : 0 < rpb) (hmax : rpb ≠ usizeMax) (w : String → Nat)
    (k : Nat) (opOf : Nat → DzkpAtomic.Op)
    (hw : ∀ i < k, (opOf i).2.2.width = w (opOf i).1 ∧ segmentOk (opOf i).2.2 = true)
    (hone : ∀ i < k, ∀ j < k, i ≠ j → ¬ ((opOf i).1 = (opOf j).1 ∧ (opOf i).2.1 = (opOf j).2.1))
    (sched : List Nat) (hall : ∀ i < k, i ∈ sched) :
    ∃ s tseq, run (codeStep k opOf) (init (Tables.new rpb)) sched = .ok s ∧
      (Tables.new rpb).pushAll ((List.range k).map opOf) = .ok tseq ∧
      (∀ b g, s.t.store b g = tseq.store b g) ∧ (∀ i < k, i ∈ s.done) ∧ s.fetched = [] := by
  have : codeStep k opOf = atomicStep k opOf := by simp [codeStep, code_push_is_atomic]
  rw [this]
  exact concurrent_push_eq_sequential rpb hpos hmax w k opOf hw hone sched hall

/-- bit `n` of the `x_left` column stored for (batch, gate); `false` if the run panicked or nothing is stored -/
def xlBit (o : Outcome State) (b : Nat) (g : String) (n : Nat) : Bool :=
  match o with
  | .ok s => ((s.t.store b g).map fun st => storeBit st.vec (·.xl) n).getD false
  | .panic _ => false

/-- the run ended without a panic, two calls have returned, nobody holds a private copy any more -/
def bothReturned (o : Outcome State) : Bool :=
  match o with
  | .ok s => s.done.length == 2 && s.fetched.length == 0
  | .panic _ => false

/-- Batches of two records, one gate, one-bit segments with `x_left = 1`; call `i` pushes
record `i`. Fetch and store under separate lock acquisitions, schedule fetch₀ fetch₁ store₀ store₁: both calls return, but
record 0's bit is gone from the table (call 1 stored back a copy taken before call 0's push). The atomic step keeps both
bits under the same schedule; and run back to back (`[0,0,1,1]`) the split variant keeps both as well — sequentially the
two are indistinguishable. -/
theorem split_push_loses_record :
    let opOf : Nat → DzkpAtomic.Op := fun i => ("g", i, seg1 1)
    let split := run (splitStep 2 opOf) (init (Tables.new 2)) [0, 1, 0, 1]
    let atomic := run (atomicStep 2 opOf) (init (Tables.new 2)) [0, 1, 0, 1]
    let splitSeq := run (splitStep 2 opOf) (init (Tables.new 2)) [0, 0, 1, 1]
    (xlBit split 0 "g" 0 = false ∧ xlBit split 0 "g" 1 = true) ∧
    (xlBit atomic 0 "g" 0 = true ∧ xlBit atomic 0 "g" 1 = true) ∧
    (xlBit splitSeq 0 "g" 0 = true ∧ xlBit splitSeq 0 "g" 1 = true) ∧
    bothReturned split = true := by
  decide +kernel

end IpaVerif.C03Race
