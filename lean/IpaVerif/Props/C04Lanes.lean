import IpaVerif.Proofs.C04Run
/-!
# C04 — vectorised (`N`-lane) MAC'd shares: one independent random coefficient per lane

`accumulate_macs` on an `N`-lane share (`eval_dy_prf` runs with 16 lanes of `Fp25519`) draws an `N`-lane random
sharing from PRSS: every lane is protected by its own coefficient (`Generated.Mac.coefficientPerLane`, re-read from
the sources).  `accumulateN_T` is the lane-wise form of `additive_attack_T`; `shared_coefficient_counterexample`
shows what goes wrong if one coefficient were shared by the lanes of a record: any error pattern whose per-lane
discrepancies add up to zero would leave `T` unchanged.
-/
namespace IpaVerif.C04
open IpaVerif.Sharing IpaVerif.Mac IpaVerif.Generated.Mac

variable {R : Type} [CommRing R]

theorem foldl_add (l : List R) (a : R) : l.foldl (ringAlg R).add a = a + l.sum := by
  induction l generalizing a with
  | nil => exact (add_zero a).symm
  | cons x xs ih => rw [List.foldl_cons, List.sum_cons, ih, ← add_assoc]; rfl

theorem accumulateN_cons (l : World R × MShare R) (ls : List (World R × MShare R)) (acc : Acc R) :
    accumulateN (ringAlg R) (l :: ls) acc = accumulateN (ringAlg R) ls (accumulate (ringAlg R) l.1 l.2 acc) := by
  simp only [accumulateN, accumulate, contribN, contrib, laneAlphas, coefficientPerLane, uContribArgs, wContribArgs,
    dotContributionN, if_true, List.map_cons, List.zipWith_cons_cons, List.foldl_cons, foldl_add]
  simp only [ringAlg, zero_add, add_assoc]

theorem accumulateN_eq_foldl (lanes : List (World R × MShare R)) (acc : Acc R) :
    accumulateN (ringAlg R) lanes acc = lanes.foldl (fun a ln => accumulate (ringAlg R) ln.1 ln.2 a) acc := by
  induction lanes generalizing acc with
  | nil =>
    simp only [accumulateN, contribN, dotContributionN, uContribArgs, wContribArgs, List.map_nil, List.zipWith_nil_right,
      List.foldl_nil]
    simp only [ringAlg, add_zero]
  | cons l ls ih => rw [List.foldl_cons, accumulateN_cons, ih]

/-- `accumulate_macs` on an `N`-lane share adds to `T` exactly
`Σ_lane α̂_lane·D_lane`: every lane has its own coefficient (`coefficientPerLane`, extracted from the sources), so
with errors `δ_{k,lane}`, `δ′_{k,lane}` on the lanes of the recorded gates,
`T = Σ_k Σ_lane α̂_{k,lane}·D_{k,lane} + (ε_u − ε_w·r̂)`; a vectorised gate is `N` scalar gates of `additive_attack_T`. -/
theorem accumulateN_T (rh : R) (lanes : List (World R × MShare R)) (acc : Acc R)
    (h : ∀ l ∈ lanes, Consistent l.1 ∧ MConsistent l.2) :
    accT rh (accumulateN (ringAlg R) lanes acc)
      = accT rh acc + (lanes.map (fun l => rec l.1 * disc rh l.2)).sum := by
  rw [accumulateN_eq_foldl]; exact foldl_accumulate_T rh (·.1) lanes h acc

theorem accumulateShared_T (rh : R) (l : World R × MShare R) (ls : List (World R × MShare R)) (acc : Acc R)
    (h : ∀ l' ∈ l :: ls, Consistent l'.1 ∧ MConsistent l'.2) :
    accT rh (accumulateShared (ringAlg R) (l :: ls) acc)
      = accT rh acc + ((l :: ls).map (fun ln => rec l.1 * disc rh ln.2)).sum :=
  foldl_accumulate_T rh (fun _ => l.1) _ (fun l' hl' => ⟨(h l List.mem_cons_self).1, (h l' hl').2⟩) acc

/-- a zero-sum lane attack (`+d` on the MAC discrepancy of one lane, `−d` on
another lane of the same record) leaves `T` unchanged when the lanes share one coefficient, for every `d`, every
coefficient and every key `r`; with the per-lane coefficients the code draws, the same attack moves `T` by
`(α̂₁ − α̂₂)·d`. -/
theorem shared_coefficient_counterexample (r x1 x2 α1 α2 : World R) (hr : Consistent r) (hx1 : Consistent x1)
    (hx2 : Consistent x2) (hα1 : Consistent α1) (hα2 : Consistent α2) (ρ : Masks R) (d : R) (acc : Acc R) :
    let m1 := upgradeE (ringAlg R) ρ ⟨d, 0, 0⟩ r x1
    let m2 := upgradeE (ringAlg R) ρ ⟨-d, 0, 0⟩ r x2
    disc (rec r) m1 = d ∧ disc (rec r) m2 = -d ∧
    accT (rec r) (accumulateShared (ringAlg R) [(α1, m1), (α2, m2)] acc) = accT (rec r) acc ∧
    accT (rec r) (accumulateN (ringAlg R) [(α1, m1), (α2, m2)] acc) = accT (rec r) acc + (rec α1 - rec α2) * d := by
  intro m1 m2
  have e1 : disc (rec r) m1 = d := (congrArg PW.disc (pwOf_upgradeE ρ ⟨d, 0, 0⟩ hr hx1)).trans (errSum_first _)
  have e2 : disc (rec r) m2 = -d := (congrArg PW.disc (pwOf_upgradeE ρ ⟨-d, 0, 0⟩ hr hx2)).trans (errSum_first _)
  have hall : ∀ l' ∈ [(α1, m1), (α2, m2)], Consistent l'.1 ∧ MConsistent l'.2 :=
    List.forall_mem_cons.mpr ⟨⟨hα1, upgradeE_consistent _ _ _ hx1⟩,
      List.forall_mem_singleton.mpr ⟨hα2, upgradeE_consistent _ _ _ hx2⟩⟩
  refine ⟨e1, e2, ?_, ?_⟩
  · rw [accumulateShared_T (rec r) (α1, m1) [(α2, m2)] acc hall]
    simp only [List.map_cons, List.map_nil, List.sum_cons, List.sum_nil, e1, e2, add_zero, mul_neg, add_neg_cancel]
  · rw [accumulateN_T (rec r) [(α1, m1), (α2, m2)] acc hall]
    simp only [List.map_cons, List.map_nil, List.sum_cons, List.sum_nil, e1, e2]; ring

end IpaVerif.C04
