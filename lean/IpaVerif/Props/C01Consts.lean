import IpaVerif.Generated.HybridConsts
/-!
# C01 — facts about the translated constants of the hybrid pipeline

`Generated/HybridConsts.lean` is regenerated from the sources on every check (constants `CONV_CHUNK`,
`PRF_CHUNK`, `AGGREGATE_DEPTH`, both `TARGET_PROOF_SIZE`s, the chunk formulas, the type instantiation of
`hybrid_protocol` in `Query::execute`, the stage order and the empty-shard branches).
-/
namespace IpaVerif.C01
open IpaVerif.Generated.Hybrid

theorem bitLenAux_eq_log2 : ∀ (fuel n : Nat), 0 < n → n < 2 ^ fuel → bitLenAux fuel n = n.log2 + 1
  | 0, n, h0, h => by omega
  | fuel + 1, n, h0, h => by
    rw [bitLenAux, if_neg (Nat.ne_of_gt h0), Nat.log2_def]
    by_cases h2 : 2 ≤ n
    · rw [if_pos h2, bitLenAux_eq_log2 fuel (n / 2) (Nat.div_pos h2 Nat.two_pos)
        (Nat.div_lt_of_lt_mul (by rwa [Nat.pow_succ, Nat.mul_comm] at h)), Nat.add_comm]
    · rw [if_neg h2, show n / 2 = 0 by omega]
      cases fuel <;> rfl

theorem prevPow2_eq (n : Nat) (h0 : 0 < n) (h : n < 2 ^ 64) : prevPow2 n = 2 ^ n.log2 := by
  rw [prevPow2, bitLen, bitLenAux_eq_log2 64 n h0 h, Nat.max_eq_right (Nat.le_add_left 1 _), Nat.add_sub_cancel]

/-- `non_zero_prev_power_of_two(n)` is the largest power of two `≤ n`, for every non-zero `usize`. -/
theorem prevPow2_spec (n : Nat) (h0 : 0 < n) (h : n < 2 ^ 64) :
    (∃ k, prevPow2 n = 2 ^ k) ∧ prevPow2 n ≤ n ∧ n < 2 * prevPow2 n := by
  rw [prevPow2_eq n h0 h, Nat.mul_comm, ← Nat.pow_succ]
  exact ⟨⟨_, rfl⟩, Nat.log2_self_le (Nat.ne_of_gt h0), Nat.lt_log2_self⟩

theorem prevPow2_zero : prevPow2 0 = 1 := by decide

theorem two_le_prevPow2_max (tps a b : Nat) (h : tps < 2 ^ 64) :
    (∃ k, prevPow2 (max 2 (tps / a / b)) = 2 ^ k) ∧ 2 ≤ prevPow2 (max 2 (tps / a / b)) := by
  have hm : tps / a / b < 2 ^ 64 :=
    Nat.lt_of_le_of_lt (Nat.le_trans (Nat.div_le_self _ _) (Nat.div_le_self _ _)) h
  have h2m : 2 ≤ max 2 (tps / a / b) := Nat.le_max_left 2 _
  obtain ⟨hk, _, h2⟩ := prevPow2_spec _ (Nat.lt_of_lt_of_le Nat.two_pos h2m) (Nat.max_lt.mpr ⟨by decide, hm⟩)
  exact ⟨hk, by omega⟩

/-- `aggregate_values_proof_chunk` is a power of two ≥ 2 for EVERY target proof size, input width and
item width (so the outer `chunks(agg_proof_chunk)` loop of `breakdown_reveal_aggregation` always
makes progress: every chunk of ≥ 2 rows shrinks to one). -/
theorem aggregateValuesProofChunk_ge_two (tps width bits : Nat) (h : tps < 2 ^ 64) :
    (∃ k, aggregateValuesProofChunk tps width bits = 2 ^ k) ∧ 2 ≤ aggregateValuesProofChunk tps width bits :=
  two_le_prevPow2_max tps width (bits + 1) h

theorem convProofChunk_ge_two (tps : Nat) (h : tps < 2 ^ 64) :
    (∃ k, convProofChunk tps = 2 ^ k) ∧ 2 ≤ convProofChunk tps :=
  two_le_prevPow2_max tps convChunk 512 h

/-- For both `TARGET_PROOF_SIZE`s (cfg(test) = harness builds, and production): the three proof-chunk sizes of the
hybrid pipeline (`aggProofChunk` is `aggregateValuesProofChunk` at `buckets`, `vBits`) are the stated powers of
two; the aggregation chunk
needs no more tree levels than `AGGREGATE_DEPTH` provides record-id slots for
("This value must be at least the log of the aggregation chunk size"); the bucket count is `2^BK::BITS`;
the output width fits the adder step (`assert!(OV::BITS <= AdditionStep::BITS)`); the value width is
not wider than the output width (needed by `aggTree_value`). -/
theorem chunk_sizes_fit :
    aggProofChunk targetProofSizeTest = 2 ^ 3 ∧ aggProofChunk targetProofSizeProd = 2 ^ 15 ∧
    3 ≤ aggregateDepth ∧ 15 ≤ aggregateDepth ∧
    convProofChunk targetProofSizeTest = 2 ^ 1 ∧ convProofChunk targetProofSizeProd = 2 ^ 8 ∧
    aggregateReportsChunk targetProofSizeTest bkBits vBits = 2 ^ 9 ∧
    aggregateReportsChunk targetProofSizeProd bkBits vBits = 2 ^ 22 ∧
    buckets = 2 ^ bkBits ∧ hvBits ≤ additionStepBits ∧ vBits ≤ hvBits ∧
    targetProofSizeTest < 2 ^ 64 ∧ targetProofSizeProd < 2 ^ 64 := by
  decide

/-- the instantiation used by `Query::execute` / `execute_hybrid_protocol`. -/
theorem instantiation : (bkBits, vBits, hvBits, ssBits, buckets) = (8, 3, 32, 3, 256) := by decide

/-- vectorisation constants (`CONV_CHUNK` records per share-conversion chunk, `PRF_CHUNK` per PRF
evaluation): the conversion chunk is a whole number of PRF chunks (`Chunk::unpack::<PRF_CHUNK>`). -/
theorem chunk_consts : convChunk = 256 ∧ prfChunk = 16 ∧ convChunk % prfChunk = 0 := by decide

/-- the stages of `hybrid_protocol` occur in the order the model composes them. -/
theorem stage_order_as_modelled :
    stageOrder = ["padding", "shuffle", "prf_reshard", "aggregate_reports",
      "breakdown_reveal_aggregation", "finalize", "dp"] ∧
    breakdownStageOrder = ["padding", "shuffle", "reveal", "aggregate"] := ⟨rfl, rfl⟩

/-- the four places where the code branches on an empty shard, in the shape the model assumes (F8
repaired): only a LONE shard returns early from `hybrid_protocol`; an empty shard reshards an empty stream
in `compute_prf_and_reshard`; `aggregate_reports` (purely local) returns no rows (F11 fix);
`breakdown_reveal_aggregation` checks for emptiness only AFTER its collective shuffle. -/
theorem early_return_sites :
    earlyReturnSites = ["hybrid_protocol.input_rows_empty_and_single_shard",
      "compute_prf_and_reshard.empty_reshards_empty_stream",
      "aggregate_reports.report_pairs_empty", "breakdown_reveal_aggregation.attributions_empty_after_shuffle"] := rfl

end IpaVerif.C01
