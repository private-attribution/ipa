import IpaVerif.Model.Dedup
import IpaVerif.Proofs.Outgoing
import IpaVerif.Props.C19
import IpaVerif.Generated.Dedup
/-!
# C11 — a report submitted twice in one query is rejected wherever the copies land

"Same encrypted report" is identified with "same 16-byte tag" (an assumption outside the theorems, see
props/C11.json: uniqueness of the AES-GCM ciphertext prefix, https://eprint.iacr.org/2019/624); the theorems
are about tags. With the picker `tag mod n` the tags a shard holds after resharding are a filter of the
whole input (`routed_eq_filter`); everything about routing follows from that. The routing is C19's resharding:
`Props/C19` is imported so that the check of C11 also rebuilds the resharding theorems against the regenerated splitter.
-/
namespace IpaVerif.C11
open IpaVerif.Dedup IpaVerif.Reshard

/-- For every tag and every shard count `1 ≤ n ≤ u32::MAX + 1`,
`shard_picker` does not panic and returns `tag mod n`, a valid shard index; with `n = 0` it panics. -/
theorem picker_in_range (tag n : Nat) :
    (1 ≤ n → n ≤ 4294967296 → shardPicker tag n = some (tag % n) ∧ tag % n < n) ∧
    (n = 0 → shardPicker tag n = none) := by
  refine ⟨fun h1 h2 => ?_, fun h => by simp [shardPicker, h]⟩
  have hlt : tag % n < n := Nat.mod_lt _ (by omega)
  exact ⟨by rw [shardPicker, if_neg (by omega), if_pos (by omega)], hlt⟩

example : shardPicker (2 ^ 128 - 1) 5 = some 0 := by decide

/-- the tag is 16 bytes, so its little-endian value is exactly a `u128` (regenerated `TAG_SIZE`) -/
theorem tag_is_u128 : IpaVerif.Generated.Dedup.tagSize = 16 := by decide

theorem checkDuplicates_cons_seen {v : Validator} {t : Nat} (h : t ∈ v.seen) (rest : List Nat) :
    checkDuplicates v (t :: rest) = ({ v with counter := v.counter + 1 }, some (v.counter + 1)) := by
  simp [checkDuplicates, checkDuplicate, h]

theorem checkDuplicates_cons_new {v : Validator} {t : Nat} (h : t ∉ v.seen) (rest : List Nat) :
    checkDuplicates v (t :: rest) = checkDuplicates { seen := t :: v.seen, counter := v.counter + 1 } rest := by
  simp [checkDuplicates, checkDuplicate, h]

theorem checkDuplicates_none (l : List Nat) : ∀ v : Validator,
    (checkDuplicates v l).2 = none ↔ (l.Nodup ∧ ∀ x ∈ l, x ∉ v.seen) := by
  induction l with
  | nil => intro v; simp [checkDuplicates]
  | cons t rest ih =>
    intro v
    by_cases hs : t ∈ v.seen
    · simp [checkDuplicates_cons_seen hs, hs]
    · rw [checkDuplicates_cons_new hs, ih]
      simp only [List.nodup_cons, List.mem_cons, forall_eq_or_imp, not_or]
      constructor
      · rintro ⟨hn, hx⟩
        exact ⟨⟨fun hm => (hx t hm).1 rfl, hn⟩, hs, fun x hm => (hx x hm).2⟩
      · rintro ⟨⟨hnm, hn⟩, _, hx⟩
        exact ⟨hn, fun x hm => ⟨fun e => hnm (e ▸ hm), hx x hm⟩⟩

theorem checkDuplicates_fresh_none (l : List Nat) : (checkDuplicates {} l).2 = none ↔ l.Nodup :=
  (checkDuplicates_none l {}).trans (and_iff_left fun _ _ => List.not_mem_nil)

/-- the counter in `DuplicateBytes(k)` is the 1-based position of the first tag that repeats an
earlier one -/
theorem checkDuplicates_some (l : List Nat) : ∀ (v : Validator) (c : Nat),
    (checkDuplicates v l).2 = some c →
      ∃ k, c = v.counter + k + 1 ∧ k < l.length ∧ (l.getD k 0 ∈ v.seen ∨ l.getD k 0 ∈ l.take k) := by
  induction l with
  | nil => intro v c h; cases h
  | cons t rest ih =>
    intro v c h
    by_cases hs : t ∈ v.seen
    · rw [checkDuplicates_cons_seen hs] at h
      exact ⟨0, (Option.some.inj h).symm, Nat.zero_lt_succ _, Or.inl hs⟩
    · rw [checkDuplicates_cons_new hs] at h
      obtain ⟨k, hc, hk, hm⟩ := ih _ c h
      refine ⟨k + 1, by rw [hc]; simp only []; omega, Nat.succ_lt_succ hk, ?_⟩
      simp only [List.getD_cons_succ, List.take_succ_cons, List.mem_cons] at hm ⊢
      rcases hm with (hm | hm) | hm
      · exact .inr (.inl hm)
      · exact .inl hm
      · exact .inr (.inr hm)

def allTags (n : Nat) (inputs : Nat → List Nat) : List Nat := (List.range n).flatMap inputs

theorem outgoing_pick (n src d i : Nat) (xs : List Nat) :
    outgoing (pick n) src d i xs = xs.filter (· % n == d) := by
  have h := List.filter_map (f := Prod.fst) (p := (· % n == d)) (l := xs.zipIdx i)
  rw [List.zipIdx_map_fst] at h
  rw [h, outgoing_eq_filter]
  rfl

theorem routed_eq_filter (n : Nat) (inputs : Nat → List Nat) (d : Nat) :
    routed n inputs d = (allTags n inputs).filter (· % n == d) := by
  simp only [routed, reshard, outgoing_pick, allTags, List.filter_flatMap]

theorem mod_of_mem_routed {n d x : Nat} {inputs : Nat → List Nat} (h : x ∈ routed n inputs d) : x % n = d := by
  rw [routed_eq_filter] at h
  simpa using (List.mem_filter.mp h).2

/-- a tag is held, with its full multiplicity, by exactly the shard `tag mod n` -/
theorem count_routed (n a d : Nat) (inputs : Nat → List Nat) :
    (routed n inputs d).count a = if a % n = d then (allTags n inputs).count a else 0 := by
  split
  · next h => rw [routed_eq_filter]; exact List.count_filter (by simpa using h)
  · next h => exact List.count_eq_zero.mpr fun hm => h (mod_of_mem_routed hm)

theorem detect_none_iff (n : Nat) (inputs : Nat → List Nat) (d : Nat) :
    detect n inputs d = none ↔ (routed n inputs d).Nodup :=
  checkDuplicates_fresh_none _

theorem dup_rejected {n a : Nat} {inputs : Nat → List Nat} (ha : 2 ≤ (allTags n inputs).count a) :
    detect n inputs (a % n) ≠ none := by
  intro h
  have := List.nodup_iff_count.mp ((detect_none_iff n inputs _).mp h) a
  rw [count_routed, if_pos rfl] at this
  omega

/-- If the tags of the whole input are pairwise distinct, no shard
reports a duplicate — for any shard count, any distribution of the reports over the shards. -/
theorem distinct_never_rejected (n : Nat) (inputs : Nat → List Nat) (h : (allTags n inputs).Nodup) (d : Nat) :
    detect n inputs d = none := by
  rw [detect_none_iff, routed_eq_filter]
  exact h.sublist List.filter_sublist

/-- For every shard count `n ≥ 1` and all per-shard inputs (any sizes, any
positions, copies on the same or on different shards): SOME shard reports `DuplicateBytes` iff the
tags of the whole input are not pairwise distinct. -/
theorem dup_detected_iff (n : Nat) (hn : 1 ≤ n) (inputs : Nat → List Nat) :
    (∃ d, d < n ∧ detect n inputs d ≠ none) ↔ ¬ (allTags n inputs).Nodup := by
  constructor
  · rintro ⟨d, _, hd⟩ hall
    exact hd (distinct_never_rejected n inputs hall d)
  · intro h
    rw [List.nodup_iff_count, Classical.not_forall] at h
    obtain ⟨a, ha⟩ := h
    exact ⟨a % n, Nat.mod_lt _ (by omega), dup_rejected (by omega)⟩

theorem two_le_count {l : List Nat} {j : Nat} (hj : j < l.length) (hm : l[j] ∈ l.take j) : 2 ≤ l.count l[j] := by
  have e : l.count l[j] = (l.take j).count l[j] + (l.drop j).count l[j] := by
    rw [← List.count_append, List.take_append_drop]
  rw [List.drop_eq_getElem_cons hj, List.count_cons_self] at e
  have := List.count_pos_iff.mpr hm
  omega

/-- The shard that errs is `shard_picker` of a duplicated tag: if shard `d`
reports `DuplicateBytes(k)`, the `k`-th tag it owns is a tag that occurs at least twice in the whole
input, it repeats one of the first `k-1` tags the shard owns, and `tag mod n = d`. -/
theorem dup_on_picker_shard (n d k : Nat) (inputs : Nat → List Nat) (h : detect n inputs d = some k) :
    ∃ tag, 1 ≤ k ∧ (routed n inputs d)[k - 1]? = some tag ∧ tag ∈ (routed n inputs d).take (k - 1) ∧
      tag % n = d ∧ 2 ≤ (allTags n inputs).count tag := by
  obtain ⟨j, hk, hj, hm⟩ := checkDuplicates_some (routed n inputs d) {} k h
  obtain rfl : k = j + 1 := by simpa using hk
  rw [← List.getElem_eq_getD (h := hj) 0] at hm
  have hmem : (routed n inputs d)[j] ∈ (routed n inputs d).take j := hm.resolve_left List.not_mem_nil
  have hd : (routed n inputs d)[j] % n = d := mod_of_mem_routed (List.getElem_mem hj)
  have h2 := two_le_count hj hmem
  rw [count_routed, if_pos hd] at h2
  exact ⟨_, Nat.succ_pos j, List.getElem?_eq_getElem hj, hmem, hd, h2⟩

example : detect 3 (fun s => [[7, 1], [5], [4, 7]].getD s []) 1 = some 4 := by decide
example : detect 3 (fun s => [[7, 1], [5], [4, 7]].getD s []) 0 = none := by decide

/-! ## Uneven sharding: the shard that owns a duplicated tag may hold nothing of its own

What a shard validates are the tags ROUTED to it, whose number is unrelated to the number of reports
it received as its own input (`ownSize`). -/

/-- Whatever the distribution of the reports over the shards: a tag that
occurs at least twice in the whole input is reported by the shard `tag mod n`, and the index
reported is a position of that shard's routed tags. -/
theorem dup_detected_on_picker (n : Nat) (hn : 1 ≤ n) (inputs : Nat → List Nat) (a : Nat)
    (ha : 2 ≤ (allTags n inputs).count a) :
    a % n < n ∧ ∃ k, detect n inputs (a % n) = some k ∧ 1 ≤ k ∧ k ≤ (routed n inputs (a % n)).length := by
  refine ⟨Nat.mod_lt _ (by omega), ?_⟩
  cases h : detect n inputs (a % n) with
  | none => exact absurd h (dup_rejected ha)
  | some k =>
    obtain ⟨j, hk, hj, _⟩ := checkDuplicates_some (routed n inputs (a % n)) {} k h
    obtain rfl : k = j + 1 := by simpa using hk
    exact ⟨j + 1, rfl, Nat.succ_pos j, hj⟩

/-- The shard that owns the duplicated tag rejects it also when it
was handed NO report or exactly ONE report as its own input — both copies submitted on other shards,
or one copy being its only report: `ownSize` plays no role. -/
theorem dup_detected_on_small_shard (n : Nat) (hn : 1 ≤ n) (inputs : Nat → List Nat) (a : Nat)
    (ha : 2 ≤ (allTags n inputs).count a) (_hsmall : ownSize inputs (a % n) ≤ 1) :
    ∃ k, detect n inputs (a % n) = some k :=
  let ⟨_, k, hk, _⟩ := dup_detected_on_picker n hn inputs a ha
  ⟨k, hk⟩

/-- the hypotheses are satisfiable with an EMPTY picker shard (both copies on shard 0, tag 7 owned by
shard 1 of 2) and with a SINGLETON picker shard (one copy is shard 1's only report) -/
example : 2 ≤ (allTags 2 (fun s => [[7, 4, 7], []].getD s [])).count 7 ∧ ownSize (fun s => [[7, 4, 7], []].getD s []) (7 % 2) = 0 ∧
    detect 2 (fun s => [[7, 4, 7], []].getD s []) 1 = some 2 := by decide
example : 2 ≤ (allTags 2 (fun s => [[7, 4], [7]].getD s [])).count 7 ∧ ownSize (fun s => [[7, 4], [7]].getD s []) (7 % 2) = 1 ∧
    detect 2 (fun s => [[7, 4], [7]].getD s []) 1 = some 2 := by decide

/-- The code is the unguarded step: the statement
`….check_duplicates(&resharded_tags)?;` regenerated from `Query::execute` is enclosed by no block
(`checkGuards = []`) and is applied to the tags returned by `reshard_aad`; and `detectIf` with the
trivial guard is `detect`, the function all theorems above are about. -/
theorem check_is_unconditional :
    IpaVerif.Generated.Dedup.checkGuards = [] ∧ IpaVerif.Generated.Dedup.checkAppliesToReshardedTags = true ∧
    ∀ n inputs d, detectIf (fun _ _ => true) n inputs d = detect n inputs d := by
  refine ⟨by decide, by decide, ?_⟩
  intro n inputs d; simp [detectIf]

/-- The variant `if decrypted_reports.len() > 1 { … }`: with the
validator step guarded by the shard's OWN input size, duplicates are accepted by every shard: two
shards, tag 7 is owned by shard 1; (i) shard 1 has no report of its own and both copies sit on shard
0; (ii) shard 1's single report is one of the copies; (iii) three shards, the copies on two different
other shards.  The unguarded step of the code rejects each of them on shard `7 mod n`. -/
theorem guarded_check_counterexample :
    (let inputs := fun s => [[7, 4, 7], []].getD s []
     ¬ (allTags 2 inputs).Nodup ∧ (∀ d, d < 2 → detectIf ownAtLeastTwo 2 inputs d = none) ∧ detect 2 inputs 1 = some 2) ∧
    (let inputs := fun s => [[7, 4], [7]].getD s []
     ¬ (allTags 2 inputs).Nodup ∧ (∀ d, d < 2 → detectIf ownAtLeastTwo 2 inputs d = none) ∧ detect 2 inputs 1 = some 2) ∧
    (let inputs := fun s => [[7, 9, 2], [], [5, 7, 11]].getD s []
     ¬ (allTags 3 inputs).Nodup ∧ (∀ d, d < 3 → detectIf ownAtLeastTwo 3 inputs d = none) ∧ detect 3 inputs 1 = some 2) := by
  decide

/-- Not only that guard: ANY guard that skips the validator for some own
size `own` when two tags are routed to the shard accepts a duplicate — two shards, both copies of tag 1
on shard 0, shard 1 holds `own` reports with even (hence distinct, shard-0-owned) tags. -/
theorem own_size_guard_misses (guard : Nat → Nat → Bool) (own : Nat) (hg : guard own 2 = false) :
    let inputs : Nat → List Nat := fun s => if s = 0 then [1, 1] else if s = 1 then (List.range own).map (2 * · + 2) else []
    ¬ (allTags 2 inputs).Nodup ∧ ∀ d, d < 2 → detectIf guard 2 inputs d = none := by
  intro inputs
  have hall : allTags 2 inputs = [1, 1] ++ (List.range own).map (2 * · + 2) := by
    exact congrArg ([1, 1] ++ ·) (List.append_nil _)
  have hev : ∀ x ∈ (List.range own).map (2 * · + 2), x % 2 = 0 := by
    intro x hx
    obtain ⟨y, _, rfl⟩ := List.mem_map.mp hx
    omega
  -- shard 0 holds the even tags, shard 1 the two copies of tag 1
  have r0 : routed 2 inputs 0 = (List.range own).map (2 * · + 2) := by
    rw [routed_eq_filter, hall, List.filter_append]
    exact List.filter_eq_self.mpr fun x hx => by simpa using hev x hx
  have r1 : routed 2 inputs 1 = [1, 1] := by
    have f1 : ((List.range own).map (2 * · + 2)).filter (· % 2 == 1) = [] :=
      List.filter_eq_nil_iff.mpr fun x hx => by simp [hev x hx]
    rw [routed_eq_filter, hall, List.filter_append, f1]
    rfl
  refine ⟨by rw [hall]; exact fun h => (List.nodup_cons.mp h).1 List.mem_cons_self, fun d hd => ?_⟩
  unfold detectIf
  obtain rfl | rfl : d = 0 ∨ d = 1 := by omega
  · -- duplicate-free, whatever the guard says
    have : detect 2 inputs 0 = none := by
      rw [detect_none_iff, r0, List.Nodup, List.pairwise_map]
      exact List.Pairwise.imp (fun h => by omega) List.nodup_range
    rw [this, ite_self]
  · -- `own` reports of its own, two routed tags: the guard skips the step
    have hown : ownSize inputs 1 = own := (List.length_map _).trans List.length_range
    rw [r1, hown, List.length_cons, List.length_singleton, hg]
    rfl

example : ownAtLeastTwo 1 2 = false ∧ ownAtLeastTwo 0 2 = false := by decide

/-- Unfolds `detect`. That `check_duplicates(..)?` precedes attribution in `Query::execute` is the statement order
checked by the translator item `dedup.check_before_protocol`, not by this theorem. -/
theorem error_before_attribution (n d k : Nat) (inputs : Nat → List Nat) (h : detect n inputs d = some k) :
    (checkDuplicates {} (routed n inputs d)).2 ≠ none := by
  unfold detect at h; rw [h]; simp

/-! ## Why ONE validator over all tags a shard owns

`Query::execute` builds a single `UniqueTagValidator::new(resharded_tags.len())` and checks all
resharded tags with it.  Validating the tags in chunks, each with a fresh validator (a "bounded
memory" variant), is NOT equivalent: two equal tags in different chunks are never compared. -/

/-- chunk-wise validation: every chunk is checked by its own fresh validator; the first failing
chunk's verdict is returned (`try_for_each`). -/
def chunkedCheck : List (List Nat) → Option Nat
  | [] => none
  | c :: rest =>
    match (checkDuplicates {} c).2 with
    | some k => some k
    | none => chunkedCheck rest

/-- the chunks of size `k` of a list (`slice::chunks(k)`), `fuel ≥ l.length` iterations. -/
def chunksOf (k : Nat) : Nat → List Nat → List (List Nat)
  | 0, _ => []
  | fuel + 1, l => if l.isEmpty then [] else l.take k :: chunksOf k fuel (l.drop k)

theorem chunkedCheck_none (cs : List (List Nat)) : chunkedCheck cs = none ↔ ∀ c ∈ cs, c.Nodup := by
  induction cs with
  | nil => simp [chunkedCheck]
  | cons c rest ih =>
    simp only [chunkedCheck, List.mem_cons, forall_eq_or_imp, ← checkDuplicates_fresh_none c]
    cases (checkDuplicates {} c).2 with
    | none => simpa using ih
    | some k => simp

/-- For every tag `t` and all duplicate-free fillers `a`, `b`
not containing `t`: a copy of `t` in the first chunk and another in a later chunk is ACCEPTED by
per-chunk validators, while the single validator of `Query::execute` over the same tags rejects it.
(Instance: `a` = 4095 further tags of the first 4096-chunk, `b ++ [t]` = the second chunk: the first
and the 4097th report of one shard are byte-identical.) -/
theorem chunked_validation_counterexample (t : Nat) (a b : List Nat)
    (ha : a.Nodup) (hb : b.Nodup) (hta : t ∉ a) (htb : t ∉ b) :
    chunkedCheck [t :: a, b ++ [t]] = none ∧
    (checkDuplicates {} ((t :: a) ++ (b ++ [t]))).2 ≠ none := by
  constructor
  · rw [chunkedCheck_none]
    intro c hc
    simp only [List.mem_cons, List.not_mem_nil, or_false] at hc
    rcases hc with rfl | rfl
    · exact List.nodup_cons.2 ⟨hta, ha⟩
    · rw [List.nodup_append]
      refine ⟨hb, by simp, ?_⟩
      intro x hx y hy
      simp only [List.mem_singleton] at hy
      subst hy
      intro e; subst e; exact htb hx
  · intro h
    exact (List.nodup_cons.mp ((checkDuplicates_fresh_none _).mp h)).1 (by simp)

/-- so chunked validation is not equivalent to the validator of the code, already for chunks of 2. -/
example : chunkedCheck (chunksOf 2 3 [7, 1, 7]) = none ∧ (checkDuplicates {} [7, 1, 7]).2 = some 3 := by decide
example : chunksOf 2 5 [1, 2, 3, 4, 5] = [[1, 2], [3, 4], [5]] := by decide

end IpaVerif.C11
