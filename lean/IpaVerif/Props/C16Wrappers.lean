import IpaVerif.Model.Validators
import IpaVerif.Props.C16
/-!
# C16 — the validator wrappers forward to the batcher, so the batcher theorems hold for them

Model: `IpaVerif.Model.Validators` (`MaliciousDZKPValidator` + `DZKPUpgraded::validate_record`, MAC
`BatchValidator` + `Upgraded::validate_record`) over `IpaVerif.Model.Batcher`.
-/
namespace IpaVerif.C16
open IpaVerif.Batcher IpaVerif.Validators

/-- a validator that still owns its batcher `s` behind an unpoisoned mutex. -/
structure Healthy (v : V) (s : State) : Prop where
  inner : v.hasInner = true
  clean : v.poisoned = false
  batcher : v.world.batcher = some s

theorem newDzkp_ok {t0 : Total} {rpb tps : Nat} {v : V} (h : newDzkp t0 rpb tps = .ok v) :
    v = { kind := .dzkp, hasInner := true, poisoned := false, ctxTotal := t0,
          world := World.new rpb t0 tps [] } := by
  unfold newDzkp at h
  dsimp only at h
  by_cases h1 : rpb = 1 ∨ rpb = usizeMax
  · rw [if_pos h1] at h; exact (Except.ok.inj h).symm
  rw [if_neg h1] at h
  by_cases h2 : rpb = 0
  · rw [if_pos h2] at h; cases h
  rw [if_neg h2] at h
  by_cases h3 : isPow2U32 rpb = true
  · rw [if_pos h3] at h; exact (Except.ok.inj h).symm
  · rw [if_neg h3] at h; cases h

/-- On a healthy validator `DZKPValidator::set_total_records(t)` IS
`TotalRecords::overwrite` on the batcher's current total: accepted ⇒ the batcher's total is the
result; refused ⇒ the batcher panic surfaces, the total is untouched and the mutex is poisoned. -/
theorem set_total_records_forwards {v : V} {s : State} (h : Healthy v s) (t : Total) :
    (∀ t', s.total.overwrite t = .ok t' →
        (v.setTotalRecords t).2 = .ok () ∧ Healthy (v.setTotalRecords t).1 { s with total := t' }) ∧
    (∀ p, s.total.overwrite t = .error p →
        (v.setTotalRecords t).2 = .error (.batcher p) ∧ (v.setTotalRecords t).1.poisoned = true ∧
        (v.setTotalRecords t).1.total = some s.total) := by
  obtain ⟨h1, h2, h3⟩ := h
  constructor
  · intro t' ho
    simp [V.setTotalRecords, h1, h2, h3, setTotal, ho]
    exact ⟨rfl, rfl, rfl⟩
  · intro p ho
    simp [V.setTotalRecords, h1, h2, h3, setTotal, ho, V.total]

/-- For every total `t0` of the context the validator was created from
(unspecified / specified / indeterminate), every batch size the constructor accepts and every declared
total `b`: the outcome of `set_total_records(b)` is exactly `t0.overwrite b`. -/
theorem wrapper_forwards_total {t0 : Total} {rpb tps : Nat} {v : V} (h : newDzkp t0 rpb tps = .ok v)
    (b : Total) :
    (∀ t', t0.overwrite b = .ok t' →
        (v.setTotalRecords b).2 = .ok () ∧ (v.setTotalRecords b).1.total = some t' ∧
        (v.setTotalRecords b).1.poisoned = false) ∧
    (∀ p, t0.overwrite b = .error p →
        (v.setTotalRecords b).2 = .error (.batcher p) ∧ (v.setTotalRecords b).1.poisoned = true) := by
  have hh : Healthy v (State.new rpb t0 tps) := by rw [newDzkp_ok h]; exact ⟨rfl, rfl, rfl⟩
  obtain ⟨hA, hB⟩ := set_total_records_forwards hh b
  constructor
  · intro t' ho
    obtain ⟨a, c⟩ := hA t' (by simpa [State.new] using ho)
    exact ⟨a, by simp [V.total, c.batcher], c.clean⟩
  · intro p ho
    obtain ⟨a, c, _⟩ := hB p (by simpa [State.new] using ho)
    exact ⟨a, c⟩

example : ∃ v, newDzkp (.specified 6) 4 8192 = .ok v ∧
    (v.setTotalRecords (.specified 8)).2 = .error (.batcher .badTransition) := ⟨_, rfl, rfl⟩

/-- Whatever the context said: if `set_total_records(b)` returns
normally on a fresh validator, the batcher's total is `b` — a declaration is never silently dropped. -/
theorem accepted_declaration_is_in_force {t0 : Total} {rpb tps : Nat} {v : V}
    (h : newDzkp t0 rpb tps = .ok v) (b : Total) (hok : (v.setTotalRecords b).2 = .ok ()) :
    (v.setTotalRecords b).1.total = some b := by
  obtain ⟨hA, hB⟩ := wrapper_forwards_total h b
  cases ho : t0.overwrite b with
  | ok t' =>
    have := (hA t' ho).2.1
    rw [this, (overwrite_ok ho).1]
  | error p =>
    have := (hB p ho).1
    rw [this] at hok
    cases hok

/-- a declaration `b ≠ a` cannot return normally and leave `a` in force. -/
theorem redeclared_total_not_silently_stale {a b rpb tps : Nat} {v : V} (hab : a ≠ b)
    (h : newDzkp (.specified a) rpb tps = .ok v) :
    ¬ ((v.setTotalRecords (.specified b)).2 = .ok () ∧
       (v.setTotalRecords (.specified b)).1.total = some (.specified a)) := by
  intro ⟨h1, h2⟩
  rw [accepted_declaration_is_in_force h _ h1] at h2
  injection h2 with h2
  injection h2 with h2
  exact hab h2.symm

inductive VOp where
  /-- `DZKPValidator::set_total_records(t)` -/
  | setTotal (t : Total)
  /-- `ctx.validate_record(r)`, created and polled once -/
  | validate (r : Nat)
  /-- one more poll of future `i` -/
  | poll (i : Nat)
  /-- future `i` is dropped -/
  | drop (i : Nat)

def vstep (v : V) : VOp → V
  | .setTotal t => (v.setTotalRecords t).1
  | .validate r => (v.validateRecord r).1
  | .poll i => (v.poll i).1
  | .drop i => v.dropFut i

/-- the batcher-level schedule a poll of future `i` amounts to. -/
def pollOps (v : V) (i : Nat) : List WOp :=
  match v.world.futs.getD i .gone with
  | .validator b _ _ => if v.checkCanFinish b then [.release b, .poll i] else [.poll i]
  | _ => [.poll i]

/-- the batcher-level schedule (`WOp`s of `Props/C16.lean`) a wrapper call amounts to; a call that is
refused by the wrapper itself (poisoned mutex, validator gone) touches nothing. -/
def expand (v : V) : VOp → List WOp
  | .setTotal t => if v.hasInner && !v.poisoned && v.world.batcher.isSome then [.setTotal t] else []
  | .validate r =>
    if v.alive && !v.poisoned then
      match (v.world.validate r).2 with
      | .error _ => [.validate r]
      | .ok i =>
        .validate r :: (match v.kind with
          | .dzkp => pollOps { v with world := (v.world.validate r).1 } i
          | .mac => [.poll i])
    else []
  | .poll i => pollOps v i
  | .drop i => [.drop i]

theorem wexec_append : ∀ (a b : List WOp) (w : World) (g : Ghost),
    wexec w g (a ++ b) = wexec (wexec w g a).1 (wexec w g a).2 b := by
  intro a
  induction a with
  | nil => intro b w g; rfl
  | cons op a ih => intro b w g; exact ih b _ _

theorem poll_world (v : V) (i : Nat) (g : Ghost) : (v.poll i).1.world = (wexec v.world g (pollOps v i)).1 := by
  unfold V.poll pollOps
  cases v.world.futs.getD i .gone with
  | validator b st x => dsimp only; split <;> rfl
  | failed e => rfl
  | waiter b => rfl
  | gone => rfl

theorem vstep_world (v : V) (op : VOp) (g : Ghost) : (vstep v op).world = (wexec v.world g (expand v op)).1 := by
  cases op with
  | setTotal t =>
    simp only [vstep, expand, V.setTotalRecords]
    cases v.hasInner
    · rfl
    cases v.poisoned
    · cases hb : v.world.batcher with
      | none => rfl
      | some s =>
        show _ = (wexec v.world g [.setTotal t]).1
        simp only [wexec, wstep, hb]
        cases setTotal s t <;> rfl
    · rfl
  | validate r =>
    simp only [vstep, expand, V.validateRecord]
    cases v.alive
    · rfl
    cases hp : v.poisoned
    · simp only [Bool.not_true, Bool.not_false, Bool.and_self, if_true, if_false, Bool.false_eq_true]
      cases hv : (v.world.validate r).2 with
      | error p => rfl
      | ok i =>
        simp only [V.firstPoll, wexec]
        cases hk : v.kind with
        | dzkp => exact poll_world _ i _
        | mac => rfl
    · rfl
  | poll i => exact poll_world v i g
  | drop i => rfl

/-- wrapper history with the batcher-level history summary (`Ghost`: `acc` = records whose
`validate_record` was accepted by the batcher, `closed` = batches that became ready). -/
def vexecG : V → Ghost → List VOp → V × Ghost
  | v, g, [] => (v, g)
  | v, g, op :: ops => vexecG (vstep v op) (wexec v.world g (expand v op)).2 ops

/-- every total declared in the history is `n`. -/
def VTotalsAgree (n : Nat) (ops : List VOp) : Prop :=
  ∀ m, VOp.setTotal (.specified m) ∈ ops → m = n

theorem setTotal_not_mem_pollOps {v : V} {i : Nat} {t : Total} : WOp.setTotal t ∉ pollOps v i := by
  unfold pollOps
  split
  · split <;> simp
  · simp

theorem expand_setTotal {v : V} {op : VOp} {t : Total} (h : WOp.setTotal t ∈ expand v op) :
    op = .setTotal t := by
  cases op with
  | setTotal t' =>
    simp only [expand] at h
    split at h
    · rw [WOp.setTotal.inj (List.mem_singleton.1 h)]
    · cases h
  | validate r =>
    simp only [expand] at h
    split at h
    · split at h
      · cases List.mem_singleton.1 h
      · rcases List.mem_cons.1 h with h | h
        · cases h
        · split at h
          · exact absurd h setTotal_not_mem_pollOps
          · cases List.mem_singleton.1 h
    · cases h
  | poll i => exact absurd h setTotal_not_mem_pollOps
  | drop i => cases List.mem_singleton.1 h

/-- For every wrapper history there is a batcher-world
schedule with the same world and history summary whose `set_total_records` calls are among the
wrapper's — so every invariant of `Props/C16.lean` holds after every wrapper history. -/
theorem wrapper_history_is_batcher_history : ∀ (ops : List VOp) (v : V) (g : Ghost),
    ∃ wops, wexec v.world g wops = ((vexecG v g ops).1.world, (vexecG v g ops).2) ∧
      ∀ n, VTotalsAgree n ops → WTotalsAgree n wops := by
  intro ops
  induction ops with
  | nil => intro v g; exact ⟨[], rfl, fun n _ t m h => by simp at h⟩
  | cons op ops ih =>
    intro v g
    obtain ⟨wops, h1, h2⟩ := ih (vstep v op) (wexec v.world g (expand v op)).2
    refine ⟨expand v op ++ wops, ?_, ?_⟩
    · rw [wexec_append, ← vstep_world]
      simpa [vexecG] using h1
    · intro n hn t m hm ht
      rcases List.mem_append.1 hm with hm | hm
      · have := expand_setTotal hm
        subst ht
        exact hn m (by rw [this]; exact List.mem_cons_self)
      · exact h2 n (fun m' hm' => hn m' (List.mem_cons_of_mem _ hm')) t m hm ht

theorem fresh_world {t0 : Total} {rpb tps : Nat} {v : V}
    (h : newDzkp t0 rpb tps = .ok v ∨ newMac t0 rpb tps = .ok v) :
    v.world = World.new rpb t0 tps [] := by
  rcases h with h | h
  · rw [newDzkp_ok h]
  · unfold newMac at h
    cases t0 with
    | specified n => cases h; rfl
    | unspecified => cases h
    | indeterminate => cases h

/-- Wrapper level; `b` any batch, in particular the last, partial one.  Let a DZKP or MAC validator be created from a context whose total is unspecified,
`n` or indeterminate, and let every total declared through `set_total_records` be `n`.  After ANY
history of wrapper calls (set_total_records / validate_record / polls / drops, refused calls
included):
(1) if a poll of a wait on batch `b` completes with `Ok`, every record `r' < n` of batch `b` has asked
    for validation — all `min(rpb, n − b·rpb)` of them, not the number a stale total would give;
(2) the future that runs the check of `b` exists only if all those records asked;
(3) conversely a batch all of whose records below `n` asked has been closed (its check was handed out). -/
theorem final_partial_batch_closes_at_declared_total {n rpb tps : Nat} {t0 : Total} {v0 : V}
    (hnew : newDzkp t0 rpb tps = .ok v0 ∨ newMac t0 rpb tps = .ok v0)
    (hrpb : 0 < rpb) (ht0 : t0 = .specified n ∨ t0 = .indeterminate ∨ t0 = .unspecified)
    (ops : List VOp) (hdecl : VTotalsAgree n ops) (i : Nat) :
    let v := (vexecG v0 {} ops).1
    let g := (vexecG v0 {} ops).2
    (∀ b, v.world.futs.getD i .gone = .waiter b → (v.poll i).2 = .ok →
        ∀ r', r' < n → r' / rpb = b → r' ∈ g.acc) ∧
    (∀ b st x, v.world.futs.getD i .gone = .validator b st x →
        ∀ r', r' < n → r' / rpb = b → r' ∈ g.acc) ∧
    (∀ b, b * rpb < n → (∀ r', r' < n → r' / rpb = b → r' ∈ g.acc) → b ∈ g.closed) := by
  intro v g
  obtain ⟨wops, hw, hagree⟩ := wrapper_history_is_batcher_history ops v0 {}
  rw [fresh_world hnew] at hw
  have hset : WSetting n rpb t0 wops := ⟨hrpb, ht0, hagree n hdecl⟩
  have hwr : wreach rpb t0 tps [] wops = (v.world, g) := hw
  have hvm := verdict_matches (tps := tps) (failing := []) hset i
  simp only [hwr] at hvm
  obtain ⟨hA, hB⟩ := hvm
  refine ⟨?_, ?_, ?_⟩
  · intro b hf hok
    have hp : (v.poll i).2 = (v.world.poll i).2 := by unfold V.poll; simp only [hf]
    rw [hp] at hok
    exact ((hA b hf).1 hok).1
  · intro b st x hf
    exact (hB b st x hf).1
  · intro b hb
    obtain ⟨_, s, _, rfl, hinv⟩ := wreach_batcher (tps := tps) (failing := []) hset
    rw [hwr] at hinv
    exact hinv.closed_of_records hb

example : VTotalsAgree 6 [.setTotal (.specified 6), .validate 4, .validate 5, .poll 0, .setTotal .indeterminate] := by
  intro m h; simp at h; exact h

end IpaVerif.C16
