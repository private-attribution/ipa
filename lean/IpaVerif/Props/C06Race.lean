import IpaVerif.Model.UsedSetAtomic
/-!
# C06 — "never reused" under concurrent callers: `UsedSet::use_index` is one atomic test-and-set

For every number of threads, every assignment of indices to threads and EVERY interleaving: with the code's single
critical section at most one caller per index value is accepted (exactly one once a caller of that value has
returned), and the outcome equals the sequential specification in completion order (linearizable). The
check-then-act variant (lookup and insert under separate guards) accepts both of two
concurrent callers: `split_accepts_twice`. Core Lean only.
-/
namespace IpaVerif.C06Race
open IpaVerif.UsedSetAtomic

section step
variable {idx : Nat → Nat} {s : State} {t : Nat}

theorem atomicStep_done (hd : t ∈ s.done) : atomicStep idx s t = s :=
  if_pos (List.contains_iff_mem.mpr hd)

theorem atomicStep_used (hd : t ∉ s.done) (hu : idx t ∈ s.used) :
    atomicStep idx s t = { s with done := t :: s.done } := by
  rw [atomicStep, if_neg (mt List.contains_iff_mem.mp hd), if_pos (List.contains_iff_mem.mpr hu)]

theorem atomicStep_fresh (hd : t ∉ s.done) (hu : idx t ∉ s.used) :
    atomicStep idx s t = { s with used := idx t :: s.used, done := t :: s.done, accepted := t :: s.accepted } := by
  rw [atomicStep, if_neg (mt List.contains_iff_mem.mp hd), if_neg (mt List.contains_iff_mem.mp hu)]

end step

theorem seqSpec_snoc (idx : Nat → Nat) (used0 order : List Nat) (t : Nat) :
    seqSpec idx used0 (order ++ [t]) =
      if idx t ∈ (seqSpec idx used0 order).1 then seqSpec idx used0 order
      else (idx t :: (seqSpec idx used0 order).1, t :: (seqSpec idx used0 order).2) := by
  simp [seqSpec, List.foldl_append]

/-- invariant of the atomic model started from `init used0`; `lin` carries the linearisation along -/
structure Inv (idx : Nat → Nat) (used0 : List Nat) (s : State) : Prop where
  used_eq : s.used = s.accepted.map idx ++ used0
  done_used : ∀ t ∈ s.done, idx t ∈ s.used
  nodup : (s.accepted.map idx).Nodup
  fresh : ∀ t ∈ s.accepted, idx t ∉ used0
  lin : (s.used, s.accepted) = seqSpec idx used0 s.done.reverse

theorem inv_init (idx : Nat → Nat) (used0 : List Nat) : Inv idx used0 (init used0) :=
  ⟨rfl, nofun, .nil, nofun, rfl⟩

theorem inv_step (idx : Nat → Nat) (used0 : List Nat) (s : State) (t : Nat) (h : Inv idx used0 s) :
    Inv idx used0 (atomicStep idx s t) := by
  by_cases hd : t ∈ s.done
  · rwa [atomicStep_done hd]
  · have hlin := seqSpec_snoc idx used0 s.done.reverse t
    rw [← List.reverse_cons, ← h.lin] at hlin
    by_cases hu : idx t ∈ s.used
    · rw [atomicStep_used hd hu]
      exact ⟨h.used_eq, List.forall_mem_cons.mpr ⟨hu, h.done_used⟩, h.nodup, h.fresh, by rw [hlin, if_pos hu]⟩
    · rw [atomicStep_fresh hd hu]
      have hu' := h.used_eq ▸ hu
      exact ⟨congrArg (idx t :: ·) h.used_eq,
        List.forall_mem_cons.mpr ⟨List.mem_cons_self, fun t' ht' => List.mem_cons_of_mem _ (h.done_used t' ht')⟩,
        List.nodup_cons.mpr ⟨fun hm => hu' (List.mem_append_left _ hm), h.nodup⟩,
        List.forall_mem_cons.mpr ⟨fun h0 => hu' (List.mem_append_right _ h0), h.fresh⟩,
        by rw [hlin, if_neg hu]⟩

theorem inv_run (idx : Nat → Nat) (used0 : List Nat) (sched : List Nat) :
    ∀ s, Inv idx used0 s → Inv idx used0 (run (atomicStep idx) s sched) := by
  induction sched with
  | nil => intro s h; exact h
  | cons t rest ih => intro s h; exact ih _ (inv_step idx used0 s t h)

/-- Any number of threads, any indices, EVERY interleaving: no index value is accepted
twice, and no value that was already in the set is accepted at all. -/
theorem at_most_one_accept (idx : Nat → Nat) (used0 sched : List Nat) (v : Nat) :
    ((run (atomicStep idx) (init used0) sched).accepted.map idx).count v ≤ 1 ∧
    (v ∈ used0 → ((run (atomicStep idx) (init used0) sched).accepted.map idx).count v = 0) := by
  have h := inv_run idx used0 sched _ (inv_init idx used0)
  refine ⟨List.nodup_iff_count.mp h.nodup v, ?_⟩
  intro hv
  rw [List.count_eq_zero]
  intro hm
  obtain ⟨t, ht, rfl⟩ := List.mem_map.mp hm
  exact h.fresh t ht hv

/-- Once some caller of a fresh value `v` has returned, EXACTLY one caller of `v` has been
accepted, whatever the interleaving of the `k` concurrent draws (in particular: `k` threads released together on
one fresh index — the suite `c06_race` — give `accepted = 1` per round). -/
theorem exactly_one_accept (idx : Nat → Nat) (used0 sched : List Nat) (v : Nat) (hv : v ∉ used0)
    (hdone : ∃ t ∈ (run (atomicStep idx) (init used0) sched).done, idx t = v) :
    ((run (atomicStep idx) (init used0) sched).accepted.map idx).count v = 1 := by
  have h := inv_run idx used0 sched _ (inv_init idx used0)
  obtain ⟨t, ht, rfl⟩ := hdone
  have hm : idx t ∈ (run (atomicStep idx) (init used0) sched).accepted.map idx :=
    (List.mem_append.mp (h.used_eq ▸ h.done_used t ht)).resolve_right hv
  have h1 := List.nodup_iff_count.mp h.nodup (idx t)
  have h2 := List.count_pos_iff.mpr hm
  omega

/-- The concurrent execution under any schedule ends with the set and the accepted
callers of the SEQUENTIAL specification run in completion order. -/
theorem use_index_linearizable (idx : Nat → Nat) (used0 sched : List Nat) :
    let s := run (atomicStep idx) (init used0) sched
    (s.used, s.accepted) = seqSpec idx used0 s.done.reverse :=
  (inv_run idx used0 sched _ (inv_init idx used0)).lin

theorem mem_done_atomicStep (idx : Nat → Nat) (s : State) (a t : Nat) :
    t ∈ (atomicStep idx s a).done ↔ t = a ∨ t ∈ s.done := by
  by_cases hd : a ∈ s.done
  · rw [atomicStep_done hd]
    exact ⟨.inr, fun h => h.elim (· ▸ hd) id⟩
  · by_cases hu : idx a ∈ s.used
    · rw [atomicStep_used hd hu]; exact List.mem_cons
    · rw [atomicStep_fresh hd hu]; exact List.mem_cons

/-- every scheduled thread has returned: one scheduling slot suffices for a call (the call never blocks others) -/
theorem scheduled_done (idx : Nat → Nat) (sched : List Nat) : ∀ (s : State) (t : Nat), t ∈ sched ∨ t ∈ s.done →
    t ∈ (run (atomicStep idx) s sched).done := by
  induction sched with
  | nil => intro s t h; exact h.resolve_left List.not_mem_nil
  | cons a rest ih =>
    intro s t h
    refine ih _ t ?_
    rw [mem_done_atomicStep]
    rcases h with h | h
    · exact (List.mem_cons.mp h).elim (.inr ∘ .inl) .inl
    · exact .inr (.inr h)

/-- the translator's reading of the source: one lock acquisition, the `insert` result decides, no separate lookup -/
theorem code_is_atomic : codeIsAtomic = true := by decide

/-- `exactly_one_accept` for `use_index` AS THE CODE HAS IT (`codeStep` is selected by the
generated constants): `k` concurrent draws of the same fresh index, every interleaving in which they all run:
exactly one is accepted. -/
theorem use_index_code (k v : Nat) (hk : 0 < k) (used0 sched : List Nat) (hv : v ∉ used0)
    (hall : ∀ t, t < k → t ∈ sched) :
    ((run (codeStep fun _ => v) (init used0) sched).accepted).length = 1 := by
  have hc : codeStep (fun _ => v) = atomicStep (fun _ => v) := by simp [codeStep, code_is_atomic]
  rw [hc]
  have h1 := exactly_one_accept (fun _ => v) used0 sched v hv
    ⟨0, scheduled_done _ sched _ 0 (Or.inl (hall 0 hk)), rfl⟩
  simpa [List.count_replicate_self, List.map_const'] using h1

example : ∀ t, t < 4 → t ∈ [2, 0, 3, 3, 1, 0] := by decide
example : (run (codeStep fun _ => 7) (init [1, 2]) [2, 0, 3, 3, 1, 0]).accepted = [2] := by decide

/-- Why atomicity is required: with the lookup and the insert
under separate guards, two threads drawing the same fresh index are BOTH accepted under the interleaving
lookup₀, lookup₁, insert₀, insert₁ — the set ends up with one entry and nobody is told. -/
theorem split_accepts_twice :
    (run (splitStep fun _ => 7) (init []) [0, 1, 0, 1]).accepted = [1, 0] ∧
    (run (splitStep fun _ => 7) (init []) [0, 1, 0, 1]).used = [7] ∧
    (run (atomicStep fun _ => 7) (init []) [0, 1, 0, 1]).accepted = [0] := by decide

theorem atomicStep_checked (idx : Nat → Nat) (s : State) (t : Nat) : (atomicStep idx s t).checked = s.checked := by
  unfold atomicStep
  split
  · rfl
  · split <;> rfl

/-- sequentially nothing distinguishes the two (which is why single-threaded tests cannot): if every call runs
its two steps back to back, the check-then-act variant behaves exactly like the atomic one. -/
theorem split_sequential_eq_atomic (idx : Nat → Nat) (sched : List Nat) : ∀ s, s.checked = [] →
    run (splitStep idx) s (sched.flatMap fun t => [t, t]) = run (atomicStep idx) s sched := by
  induction sched with
  | nil => intro s _; rfl
  | cons t rest ih =>
    intro s hs
    have key : splitStep idx (splitStep idx s t) t = atomicStep idx s t := by
      by_cases hd : t ∈ s.done
      · simp [splitStep, atomicStep, hd]
      · by_cases hu : idx t ∈ s.used
        · -- the lookup fails and the call returns; its second slot does nothing
          simp [splitStep, atomicStep, hs, hd, hu]
        · -- lookup, then insert with nobody in between
          simp [splitStep, atomicStep, hs, hd, hu]
    simp only [List.flatMap_cons, run, List.foldl_append, List.foldl_cons, List.foldl_nil]
    rw [key]
    exact ih _ ((atomicStep_checked idx s t).trans hs)

end IpaVerif.C06Race
