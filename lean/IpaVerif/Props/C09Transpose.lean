import IpaVerif.Proofs.C09Transpose
/-! # C09 — bit-matrix transposition is a lossless inverse of itself for every supported shape

Non-vacuity of the hypotheses of the theorems of `Proofs/C09Transpose.lean`, and the aggregation round trip as an instance. -/
namespace IpaVerif.C09
open IpaVerif.Transpose

example : ShapeOk 16 256 64 ∧ ShapeOk 8 8 256 ∧ ShapeOk 0 256 3 := by decide
example : RowsBytes [[1, 2], [255, 0]] := by
  unfold RowsBytes Bytes
  decide

/-- The round trip used by aggregation (`[AdditiveShare<BA8>; 256]` → vectorized → back), as an instance. -/
example (m : Rows) (hm : RowsBytes m) (r c : Nat) (hr : r < 256) (hc : c < 8) :
    bitAt (transposeImpl 8 8 256 (transposeImpl 0 256 8 m)) r c = bitAt m r c :=
  transpose_involutive 0 8 256 8 (by decide) (by decide) m hm r c hr hc

end IpaVerif.C09
