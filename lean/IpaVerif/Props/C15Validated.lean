import IpaVerif.Model.ValidatedJoin
import IpaVerif.Proofs.SeqJoinInv
/-!
C15 for `DZKPValidator::validated_seq_join`: **the first error is not withheld by validation**.

"… yields every task's result exactly once and in input order … and ends the output after the first error for the
fallible variant."  `validated_seq_join` chains `validate_record(i)` to every task; with the malicious validator that
call completes only when the whole batch of record `i` has asked.  A failed task must therefore hand out its error
BEFORE asking: otherwise the error waits for records that may never come.
-/
namespace IpaVerif.C15V
open IpaVerif.VJoin
open IpaVerif.SeqJoin (range_eq_append range_append_cons_head)

/-- The statement order regenerated from the source is
`let item = res?; ctx.validate_record(..).await?; Ok(item)`. -/
theorem validated_continuation_error_first :
    contErrorFirst IpaVerif.Generated.validatedContinuation = true :=
  beq_iff_eq.2 rfl

/-- the join as the code builds it has the error-first continuation -/
theorem cfgOf_errFirst (mal : Bool) (n rpb w : Nat) : (cfgOf mal n rpb w).errFirst = true :=
  validated_continuation_error_first

/-- normal form of `cfgOf` for `decide` -/
theorem cfgOf_eq (mal : Bool) (n rpb w : Nat) :
    cfgOf mal n rpb w = { n := n, rpb := rpb, w := w, mal := mal, errFirst := true } :=
  congrArg (Cfg.mk n rpb w mal) validated_continuation_error_first

/-- With that order the continuation of a failed task is `Ready(Err)` at the poll at which the task completes, for
every state of the batch, and the batch state is untouched (the record never asks). -/
theorem failed_task_error_at_once (c : Cfg) (h : c.errFirst = true) (done : Nat → Option TaskRes) (bs : BatchSt)
    (i : Nat) (hd : done i = some .err) :
    contPoll c done bs i .task = (.doneErr, bs) := by
  simp [contPoll, hd, h]

theorem refill_spec (c : Cfg) (fuel next : Nat) (act : List Slot) :
    ∃ k, (refill c fuel next act).1 = next + k ∧
      (refill c fuel next act).2 = act ++ (List.range' next k).map (fun j => { id := j, ph := .task }) := by
  fun_induction refill c fuel next act with
  | case1 next act => exact ⟨0, rfl, (List.append_nil _).symm⟩
  | case2 _ next act _ ih =>
    obtain ⟨k, h1, h2⟩ := ih
    exact ⟨k + 1, by omega, by rw [h2, List.range'_succ, List.map_cons, List.append_assoc]; rfl⟩
  | case3 _ next act => exact ⟨0, rfl, (List.append_nil _).symm⟩

/-- the window after "draw more values from the input" -/
def window (c : Cfg) (s : State) : List Slot := (refill c c.w s.next s.active).2

/-- Whenever the record at the front of the window has failed, `poll_next` answers its error at this very poll: for
every window, batch size, total, validation state of every batch and state of all other tasks (which may never
complete). -/
theorem front_error_yielded (c : Cfg) (h : c.errFirst = true) (done : Nat → Option TaskRes) (s : State)
    (hlive : s.ended = false) (i : Nat) (rest : List Slot)
    (hfront : window c s = { id := i, ph := .task } :: rest) (hd : done i = some .err) :
    (step c done s).2 = .err i ∧ (step c done s).1.bs = s.bs := by
  unfold window at hfront
  unfold step
  simp only [hlive, Bool.false_eq_true, if_false]
  generalize hr : refill c c.w s.next s.active = r at hfront
  obtain ⟨nx, act⟩ := r
  simp only at hfront
  subst hfront
  simp [failed_task_error_at_once c h done s.bs i hd]

/-- corollary: a failed record that is at the front of the window and has not asked yet is reported at this poll -/
theorem front_error_yielded' (c : Cfg) (h : c.errFirst = true) (done : Nat → Option TaskRes) (s : State)
    (hlive : s.ended = false) (i : Nat) (l : List Slot) (hact : s.active = { id := i, ph := .task } :: l)
    (hd : done i = some .err) : (step c done s).2 = .err i := by
  obtain ⟨k, _, h2⟩ := refill_spec c c.w s.next s.active
  exact (front_error_yielded c h done s hlive i _ (h2.trans (hact ▸ List.cons_append)) hd).1

def ids (l : List Slot) : List Nat := l.map (·.id)

theorem pollRest_ids (c : Cfg) (done : Nat → Option TaskRes) (l : List Slot) (bs : BatchSt) :
    ids (pollRest c done l bs).1 = ids l := by
  fun_induction pollRest c done l bs with
  | case1 => rfl
  | case2 sl rest bs ph bs1 _ rest' bs2 hr ih =>
    rw [hr] at ih
    exact congrArg (sl.id :: ·) ih

def Inv (s : State) (em : List Nat) : Prop := em ++ ids s.active = List.range s.next

theorem refill_inv (c : Cfg) (fuel : Nat) {em : List Nat} {next : Nat} {act : List Slot}
    (h : em ++ ids act = List.range next) :
    em ++ ids (refill c fuel next act).2 = List.range (refill c fuel next act).1 := by
  obtain ⟨k, h1, h2⟩ := refill_spec c fuel next act
  have hfresh : ids ((List.range' next k).map fun j => { id := j, ph := .task }) = List.range' next k := by
    simp [ids, Function.comp_def]
  rw [h1, h2, ids, List.map_append, ← List.append_assoc, ← ids, ← ids, h, hfresh,
    List.range_eq_range', List.range_eq_range', ← List.range'_append_1, Nat.zero_add]

theorem emitted_cons (o : Out) (os : List Out) : emitted (o :: os) = emitted [o] ++ emitted os := by
  cases o <;> rfl

theorem emitted_append (a b : List Out) : emitted (a ++ b) = emitted a ++ emitted b := by
  induction a with
  | nil => rfl
  | cons x a ih => rw [List.cons_append, emitted_cons, ih, ← List.append_assoc, ← emitted_cons]

theorem step_inv (c : Cfg) (done : Nat → Option TaskRes) {s : State} {em : List Nat} (hinv : Inv s em) :
    Inv (step c done s).1 (em ++ emitted [(step c done s).2]) := by
  unfold step
  by_cases he : s.ended = true
  · rw [if_pos he]
    exact (List.append_nil em).symm ▸ hinv
  · rw [if_neg he]
    have hw := refill_inv c c.w hinv
    generalize refill c c.w s.next s.active = r at hw ⊢
    obtain ⟨nx, act⟩ := r
    cases act with
    | nil =>
      have : ∀ o : Out, o = .finished ∨ o = .finishedUnverified →
          Inv { s with next := nx, active := [], ended := true } (em ++ emitted [o]) := by
        rintro o (rfl | rfl) <;> exact (List.append_nil em).symm ▸ hw
      exact this _ (by dsimp only; split <;> simp)
    | cons front rest =>
      replace hw : em ++ front.id :: ids rest = List.range nx := hw
      dsimp only
      split
      · exact (List.append_assoc ..).trans hw
      · exact (List.append_assoc ..).trans hw
      · rw [← pollRest_ids c done rest (contPoll c done s.bs front.id front.ph).2] at hw
        exact (List.append_nil em).symm ▸ hw

theorem run_inv (c : Cfg) : ∀ (ds : List (Nat → Option TaskRes)) (s : State) (em : List Nat), Inv s em →
    Inv (run c s ds).1 (em ++ emitted (run c s ds).2) := by
  intro ds
  induction ds with
  | nil => intro s em h; exact (List.append_nil em).symm ▸ h
  | cons d ds ih =>
    intro s em h
    have := ih _ _ (step_inv c d h)
    rwa [List.append_assoc, ← emitted_cons] at this

/-- Input order, each record once: for every configuration (window, batch size, total, validator kind, even for
either statement order) and every script of environments, the records handed out (as `Ok` or as `Err`) are
`0, 1, 2, …`. -/
theorem validated_outputs_in_order (c : Cfg) (ds : List (Nat → Option TaskRes)) :
    emitted (run c State.init ds).2 = List.range (emitted (run c State.init ds).2).length :=
  (range_eq_append (run_inv c ds State.init [] rfl)).1

/-- The error of task `i` comes after exactly the items `< i`: if some poll of a script answers the error of
record `i`, the records handed out before it are `0, …, i-1`. -/
theorem error_after_exactly_the_earlier_items (c : Cfg) (ds : List (Nat → Option TaskRes)) (pre post : List Out) (i : Nat)
    (h : (run c State.init ds).2 = pre ++ .err i :: post) : emitted pre = List.range i := by
  have hord := validated_outputs_in_order c ds
  rw [h, emitted_append, emitted_cons] at hord
  rw [range_append_cons_head hord]
  exact (range_eq_append hord).1

/-- environment: the listed tasks have completed (`true` = Ok) -/
def envOf (l : List (Nat × Bool)) : Nat → Option TaskRes := fun i =>
  match l.lookup i with
  | some true => some .ok
  | some false => some .err
  | none => none

/-- malicious validator, one batch of four records, window four; task 0 failed, the others never complete: the very
first poll answers the error (the code's order). -/
example : (run (cfgOf true 4 4 4) State.init [envOf [(0, false)]]).2 = [.err 0] := by
  rw [cfgOf_eq]; decide

/-- error at the start of the second batch, first batch complete: `Pending` (record 3 completes the batch), then
`0 1 2 3`, then the error of record 4 although records 5..7 never complete. -/
example : (run (cfgOf true 8 4 4) State.init
      (List.replicate 6 (envOf [(0, true), (1, true), (2, true), (3, true), (4, false)]))).2
    = [.pending, .ok 0, .ok 1, .ok 2, .ok 3, .err 4] := by
  rw [cfgOf_eq]; decide

/-- The other order (validate first, then return `res`): the failed front task of a 4-record batch asks for validation and waits for the
three records that never come — the error is never reported. -/
theorem withheld_error_counterexample :
    (run { n := 4, rpb := 4, w := 4, mal := true, errFirst := false } State.init
      (List.replicate 5 (envOf [(0, false)]))).2 = List.replicate 5 .pending := by decide

end IpaVerif.C15V
