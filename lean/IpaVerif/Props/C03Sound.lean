import IpaVerif.Props.C03Batch
/-!
# C03 — deterministic soundness of the recursive proof check (any prover)

Induction over the levels of the chain `tailD` (`tail_sound`), one `link_sound` per level; the first level comes from
`verifyDiffs_cons`.
-/
namespace IpaVerif.C03Batch
open IpaVerif.DzkpBatch IpaVerif.C03Algebra IpaVerif.PrimeField IpaVerif.Generated IpaVerif.Generated.Dzkp

variable {K : Type} [Field K]

def sub7' (x y : P7 K) : P7 K :=
  ⟨x.p0 - y.p0, x.p1 - y.p1, x.p2 - y.p2, x.p3 - y.p3, x.p4 - y.p4, x.p5 - y.p5, x.p6 - y.p6⟩

theorem sub7'_eq (x y : P7 K) : sub7' x y = sub7 (fieldOps K) x y := rfl

/-- the polynomial of degree ≤ 6 through the seven values of `z` at `0..6`. -/
def poly7 (z : P7 K) (x : K) : K := interp7 z.p0 z.p1 z.p2 z.p3 z.p4 z.p5 z.p6 x

/-- the proofs determined by the verifiers' records: what `compute_proof` yields on the level-`k` vectors that the
two verifiers derive (jointly) from their own `u` resp. `v` rows and the challenges so far; the last one masked. -/
def trueLoop (mp mq : K) : List (K × K) → List K → List (P7 K)
  | _, [] => []
  | uv, [_] => [g7 [maskChunk ((chunk4p uv).headD ((⟨0, 0, 0, 0⟩ : V4 K), (⟨0, 0, 0, 0⟩ : V4 K))) mp mq]]
  | uv, r :: r' :: rs => g7 (chunk4p uv) :: trueLoop mp mq (nextLevel (chunk4p uv) r) (r' :: rs)

def trueProofs (mp mq : K) (insV : List (V4 K × V4 K)) : List K → List (P7 K)
  | [] => []
  | c0 :: ctail => g7 insV :: trueLoop mp mq (nextLevel insV c0) ctail

/-- level `k` is *bad*: the submitted proof differs from the true one, yet both agree at the challenge — `r_k` is a
root of the non-zero polynomial `poly7 (G_k − T_k)` of degree ≤ 6 = 2L − 2. -/
def BadAt (Gs Ts : List (P7 K)) (cs : List K) (k : Nat) : Prop :=
  ∃ G T r, Gs[k]? = some G ∧ Ts[k]? = some T ∧ cs[k]? = some r ∧ G ≠ T ∧ poly7 (sub7' G T) r = 0

theorem poly7_sub (G T : P7 K) (r : K) :
    poly7 (sub7' G T) r = eval7 (fieldOps K) r G - eval7 (fieldOps K) r T := by
  rw [poly7, ← eval7_interp, sub7'_eq, eq_sub_iff_add_eq, split_of_add (eval7_add r)]

theorem bad_succ (G T : P7 K) (c : K) {Gs Ts : List (P7 K)} {cs : List K}
    (h : ∃ k, BadAt Gs Ts cs k) : ∃ k, BadAt (G :: Gs) (T :: Ts) (c :: cs) k := by
  obtain ⟨k, g, t, r, h1, h2, h3, h4⟩ := h
  exact ⟨k + 1, g, t, r, by rwa [List.getElem?_cons_succ], by rwa [List.getElem?_cons_succ],
    by rwa [List.getElem?_cons_succ], h4⟩

theorem link_sound (f : P7 K → K) (z T : P7 K) (pv S r : K) (Gs Ts : List (P7 K)) (cs : List K)
    (h1 : f z - pv = 0) (hT : f T = S) (he : eval7 (fieldOps K) r z = eval7 (fieldOps K) r T) :
    pv = S ∨ ∃ k, BadAt (z :: Gs) (T :: Ts) (r :: cs) k := by
  by_cases h : z = T
  · left; rw [← hT, ← h]; linear_combination -h1
  · right; exact ⟨0, z, T, r, rfl, rfl, rfl, h, by rw [poly7_sub, he, sub_self]⟩

/-- soundness of the chain after the first proof (recombined proofs `zs`). -/
theorem tail_sound (h2 : (2 : K) ≠ 0) (h3 : (3 : K) ≠ 0) (h5 : (5 : K) ≠ 0) (mp mq : K) :
    ∀ (cs : List K) (zs : List (P7 K)) (uv : List (K × K)) (pv p q : K), cs.length = zs.length →
    vrec mp (uv.map Prod.fst) cs = some p → vrec mq (uv.map Prod.snd) cs = some q →
    AllZero (tailD pv zs cs (p * q)) →
    pv = flatDot uv ∨ ∃ k, BadAt zs (trueLoop mp mq uv cs) cs k := by
  intro cs
  induction cs with
  | nil => intro zs uv pv p q _ hp; exact absurd hp (by simp [vrec])
  | cons c cs ih =>
    intro zs uv pv p q hlen hp hq hz
    cases zs with
    | nil => simp at hlen
    | cons z zs =>
      cases cs with
      | nil =>
        have hzs : zs = [] := by simpa using hlen.symm
        subst hzs
        simp only [vrec] at hp hq
        have hl4 : uv.length < 4 := by
          by_contra hge
          simp [lastStep, Nat.not_lt.mp hge] at hp
        have hl1 : 1 ≤ uv.length := by
          cases uv with
          | nil => simp [lastStep] at hp
          | cons a b => simp
        obtain ⟨c0, hc, hpad, hdot, hpp, hqq⟩ := small_uv mp mq uv hl1 hl4
        rw [hpp c] at hp; rw [hqq c] at hq
        obtain ⟨z1, hz⟩ := allZero_cons.mp hz
        obtain ⟨z2, -⟩ := allZero_cons.mp hz
        have hT : trueLoop mp mq uv [c] = [g7 [maskChunk c0 mp mq]] := by rw [trueLoop, hc]; rfl
        rw [hT]
        refine link_sound (finalSumShare (fieldOps K)) z _ pv _ c [] [] [] z1
          (by rw [finalSumShare_g7 h2 h3 h5 c0 hpad, hdot]) ?_
        rw [eval7_g7_mask h2 h3 h5, Option.some.inj hp, Option.some.inj hq]
        linear_combination -z2
      | cons c' cs' =>
        cases zs with
        | nil => simp at hlen
        | cons z' zs' =>
          rw [vrec_cons _ _ _ (List.cons_ne_nil _ _), (recurse_fst c uv).1] at hp
          rw [vrec_cons _ _ _ (List.cons_ne_nil _ _), (recurse_fst c uv).2] at hq
          rw [tailD_cons _ _ (List.cons_ne_nil _ _)] at hz
          obtain ⟨z1, hz⟩ := allZero_cons.mp hz
          rw [trueLoop]
          rcases ih (z' :: zs') (nextLevel (chunk4p uv) c) _ p q (by simpa using hlen) hp hq hz with hgood | hbad
          · exact link_sound (sumShare (fieldOps K)) z _ pv _ c _ _ _ z1
              (by rw [sumShare_g7 h2 h3 h5, chunk_dot]) (by rw [hgood, eval7_g7 h2 h3 h5, flatDot_next])
          · exact Or.inr (bad_succ z _ c hbad)

/-- Deterministic soundness, ANY prover (in particular one that
follows the protocol on an altered record set, and the "two-faced" prover that builds the first proof from one set
of records and the recursion from another).

`uL`, `vR`: the `u` rows of the left verifier and the `v` rows of the right verifier (from their own records);
`left`, `right`: the shares of the prover's proofs they hold (arbitrary); `s`: the claimed `sum_of_uv`.
If `BatchToVerify::verify`'s recombined difference vector exists and is all zero (both verifiers accept), then
* `Σ_j ⟨u_j, v_j⟩ = s` — by `sum_iff_all_consistent` (with `s = m·(−1/2)`) every recorded triple is consistent — or
* at some level `k` the submitted proof `G_k = left_k + right_k` differs from the proof `T_k` determined by the
  verifiers' records and the challenges `r_0 … r_{k−1}`, but the challenge `r_k` is a root of
  `x ↦ poly7 (G_k − T_k) x`: a polynomial of degree ≤ 6 = 2L − 2 (`interp7`: a combination of the seven degree-6
  Lagrange basis polynomials) that is non-zero (`poly7_nonzero`: it takes the non-zero value `G_k[i] − T_k[i]` at some
  node `i ∈ {0..6}`) and that is fixed before `r_k = H(k, left_k, right_k)` is derived.
The probability of the second event under a random oracle (≤ (#levels)·6/|F|) is not formalised.
Every link of `compute_g_differences` is used: link 0 (`sum_of_uv`), the link between the first proof's `g(r_0)` and
the sum of the second proof (`firstAtC0`, through `gDiff_eq`), the recursive links and the final `p(r)·q(r)` link. -/
theorem accept_implies_consistent_or_bad_challenge (h2 : (2 : K) ≠ 0) (h3 : (3 : K) ≠ 0) (h5 : (5 : K) ≠ 0)
    (uL vR : List (V4 K)) (huv : uL.length = vR.length) (left right : List (P7 K)) (hlr : left.length = right.length)
    (H : Nat → P7 K → P7 K → K) (mp mq s : K) (diffs : List K)
    (hv : verifyDiffs (fieldOps K) uL vR left right H mp mq s = some diffs) (hz : AllZero diffs) :
    ((List.zip uL vR).map fun c => c.1.dot c.2).sum = s ∨
    ∃ k, BadAt (List.zipWith add7 left right) (trueProofs mp mq (List.zip uL vR) (challenges H left right))
      (challenges H left right) k := by
  cases left with
  | nil => simp [verifyDiffs] at hv
  | cons l0 ls =>
  cases right with
  | nil => simp at hlr
  | cons r0 rs =>
  have hlen : ls.length = rs.length := Nat.succ.inj hlr
  have hct : (challengesFrom H 1 ls rs).length = ls.length := challengesFrom_length H ls rs 1 hlen
  have hrows := rows_next (List.zip uL vR) (H 0 l0 r0)
  rw [List.map_fst_zip (Nat.le_of_eq huv), List.map_snd_zip (Nat.le_of_eq huv.symm)] at hrows
  rw [verifyDiffs_cons h2 h3 h5 _ _ _ _ _ _ hlen, hrows.1, hrows.2] at hv
  split at hv
  case isFalse => exact absurd hv (by simp)
  cases hp : vrec mp ((nextLevel (List.zip uL vR) (H 0 l0 r0)).map Prod.fst) (challengesFrom H 1 ls rs) with
  | none => simp [hp] at hv
  | some p =>
  cases hq : vrec mq ((nextLevel (List.zip uL vR) (H 0 l0 r0)).map Prod.snd) (challengesFrom H 1 ls rs) with
  | none => simp [hp, hq] at hv
  | some q =>
  rw [hp, hq, Option.bind_some, Option.map_some, Option.some.injEq] at hv
  subst hv
  obtain ⟨z0, hz⟩ := allZero_cons.mp hz
  show _ ∨ ∃ k, BadAt (add7 l0 r0 :: List.zipWith add7 ls rs) (g7 (List.zip uL vR) :: _) (H 0 l0 r0 :: _) k
  rcases tail_sound h2 h3 h5 mp mq _ (List.zipWith add7 ls rs) _ _ p q (by simp [hct, hlen]) hp hq hz with hgood | hbad
  · exact (link_sound (sumShare (fieldOps K)) (add7 l0 r0) _ s _ _ _ _ _ z0 (sumShare_g7 h2 h3 h5 _)
      (by rw [hgood, eval7_g7 h2 h3 h5, flatDot_next])).imp_left Eq.symm
  · exact Or.inr (bad_succ _ _ _ hbad)

/-- `poly7 D` is the zero polynomial only for `D = 0`: it takes the value `D[i]` at the node `i`. -/
theorem poly7_nonzero (h2 : (2 : K) ≠ 0) (h3 : (3 : K) ≠ 0) (h5 : (5 : K) ≠ 0) (G T : P7 K) (h : G ≠ T) :
    ∃ i : Nat, i ≤ 6 ∧ poly7 (sub7' G T) (i : K) ≠ 0 := by
  obtain ⟨n0, n1, n2, n3, n4, n5, n6⟩ := interp7_nodes (ne_zero_720 h2 h3 h5) (G.p0 - T.p0) (G.p1 - T.p1)
    (G.p2 - T.p2) (G.p3 - T.p3) (G.p4 - T.p4) (G.p5 - T.p5) (G.p6 - T.p6)
  have hne : G.p0 ≠ T.p0 ∨ G.p1 ≠ T.p1 ∨ G.p2 ≠ T.p2 ∨ G.p3 ≠ T.p3 ∨ G.p4 ≠ T.p4 ∨ G.p5 ≠ T.p5 ∨ G.p6 ≠ T.p6 := by
    by_contra hc
    simp only [not_or, not_not] at hc
    exact h (by cases G; cases T; simpa only [P7.mk.injEq] using hc)
  rcases hne with d | d | d | d | d | d | d
  · exact ⟨0, by omega, fun e => sub_ne_zero.mpr d (n0.symm.trans (by rwa [Nat.cast_zero] at e))⟩
  · exact ⟨1, by omega, fun e => sub_ne_zero.mpr d (n1.symm.trans (by rwa [Nat.cast_one] at e))⟩
  · exact ⟨2, by omega, fun e => sub_ne_zero.mpr d (n2.symm.trans (by rwa [Nat.cast_ofNat] at e))⟩
  · exact ⟨3, by omega, fun e => sub_ne_zero.mpr d (n3.symm.trans (by rwa [Nat.cast_ofNat] at e))⟩
  · exact ⟨4, by omega, fun e => sub_ne_zero.mpr d (n4.symm.trans (by rwa [Nat.cast_ofNat] at e))⟩
  · exact ⟨5, by omega, fun e => sub_ne_zero.mpr d (n5.symm.trans (by rwa [Nat.cast_ofNat] at e))⟩
  · exact ⟨6, by omega, fun e => sub_ne_zero.mpr d (n6.symm.trans (by rwa [Nat.cast_ofNat] at e))⟩


/-- is the multiplication with table indices `(i, j)` consistent (`Σ_k U[i][k]·V[j][k] = −1/2`)? -/
def flagOf (ij : Nat × Nat) : Bool :=
  decide (IpaVerif.C03.rowDot (tableU.getD ij.1 []) (tableV.getD ij.2 []) = minusOneHalf)

theorem index_bits : ∀ i, i < 8 → ∃ a c e : Bool, i = ofBit a + 2 * ofBit c + 4 * ofBit e := by decide

theorem rowDot_gateTerm : ∀ i, i < 8 → ∀ j, j < 8 →
    IpaVerif.C03.rowDot (tableU.getD i []) (tableV.getD j []) = IpaVerif.C03.gateTerm (flagOf (i, j)) := by
  intro i hi j hj
  obtain ⟨a, c, e, rfl⟩ := index_bits i hi
  obtain ⟨b, d, f, rfl⟩ := index_bits j hj
  have hU : tableU.getD (ofBit a + 2 * ofBit c + 4 * ofBit e) [] = tableURow e c a := by
    rw [List.getD_eq_getElem?_getD, (IpaVerif.C03.table_layout a c e).1]; rfl
  have hV : tableV.getD (ofBit b + 2 * ofBit d + 4 * ofBit f) [] = tableVRow f d b := by
    rw [List.getD_eq_getElem?_getD, (IpaVerif.C03.table_layout b d f).2]; rfl
  rw [flagOf, hU, hV, IpaVerif.C03.table_identity]
  split
  · rfl
  · rw [decide_eq_false (by decide : inverseOfTwo ≠ minusOneHalf)]; rfl

/-- Accepted ⇒ all triples consistent, or a bad challenge (`Fp61BitPrime`, the verifiers' views given by their
table indices, claimed sum `m·(−1/2)` as `Batch::validate` computes it). -/
theorem accept_implies_all_consistent_or_bad_challenge_fp61 (idx : List (Nat × Nat))
    (hr : ∀ ij ∈ idx, ij.1 < 8 ∧ ij.2 < 8) (hm : idx.length < fp61.p)
    (left right : List (P7 F61)) (hlr : left.length = right.length)
    (H : Nat → P7 F61 → P7 F61 → F61) (mp mq : F61) (diffs : List F61)
    (hv : verifyDiffs (fieldOps F61) ((rowsF61 idx).map Prod.fst) ((rowsF61 idx).map Prod.snd) left right H mp mq
      ((IpaVerif.C03.expectedSum idx.length : Nat) : F61) = some diffs) (hz : AllZero diffs) :
    (∀ ij ∈ idx, IpaVerif.C03.rowDot (tableU.getD ij.1 []) (tableV.getD ij.2 []) = minusOneHalf) ∨
    ∃ k, BadAt (List.zipWith add7 left right) (trueProofs mp mq (rowsF61 idx) (challenges H left right))
      (challenges H left right) k := by
  have hzip : List.zip ((rowsF61 idx).map Prod.fst) ((rowsF61 idx).map Prod.snd) = rowsF61 idx := by
    rw [← List.unzip_fst, ← List.unzip_snd]; exact List.zip_unzip _
  have := accept_implies_consistent_or_bad_challenge f61_two_three_five_ne_zero.1 f61_two_three_five_ne_zero.2.1 f61_two_three_five_ne_zero.2.2
    ((rowsF61 idx).map Prod.fst) ((rowsF61 idx).map Prod.snd) (by simp) left right hlr H mp mq _ diffs hv hz
  rw [hzip] at this
  rcases this with hsum | hbad
  · left
    have hlen : (idx.map flagOf).length = idx.length := List.length_map _
    have hcs := cast_foldl_fadd IpaVerif.C03.gateTerm (idx.map flagOf) 0 (by decide) (fun c _ => by cases c <;> decide)
    have hexp := expectedSum_canonical idx.length hm
    have heq : IpaVerif.C03.sumTerms (idx.map flagOf) = IpaVerif.C03.expectedSum (idx.map flagOf).length := by
      rw [hlen]
      refine IpaVerif.C08.eq_of_cast_eq hcs.1 hexp.1 ?_
      rw [IpaVerif.C03.sumTerms, hcs.2, Nat.cast_zero, zero_add, List.map_map, ← hsum, dots_rowsF61 idx hr]
      exact congrArg List.sum (List.map_congr_left fun ij h =>
        congrArg Nat.cast (rowDot_gateTerm ij.1 (hr ij h).1 ij.2 (hr ij h).2).symm)
    have hall := (IpaVerif.C03.sum_iff_all_consistent _ (hlen ▸ hm)).mp heq
    intro ij hij
    exact of_decide_eq_true (List.all_eq_true.mp hall (flagOf ij) (List.mem_map_of_mem hij))
  · right; exact hbad

end IpaVerif.C03Batch
