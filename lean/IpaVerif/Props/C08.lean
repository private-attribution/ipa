import IpaVerif.Proofs.C08Prime
import IpaVerif.Generated.PrimeFields
/-!
# C08 — every value type advertised as a field is a field with canonical elements

Property theorems about the prime fields, core Lean only (the ring/field structure that needs
Mathlib is in `IpaVerif.Props.C08Field`), read off the general lemmas of `Proofs.C08Prime` at the
constants regenerated from `ipa-core/src/ff/prime_field.rs` on every run.
-/
namespace IpaVerif.C08
open IpaVerif.PrimeField IpaVerif.Generated

/-- The hand-written Mersenne reduction of `Fp61BitPrime` equals `% PRIME` on **every** `u128`
(2^128 = 340282366920938463463374607431768211456), and its intermediate sums fit in a `u128`. -/
theorem mersenne_reduce_correct (val : Nat) (h : val < 340282366920938463463374607431768211456) :
    mersenneReduce fp61 val = val % fp61.p :=
  mersenneReduce_eq_mod fp61 rfl (by show val / 2 ^ 61 + 2 ^ 61 ≤ 2 ^ 61 * 2305843009213693951; omega)

/-- The final conditional must test `≥`: with `if val == PRIME {0} else {val}` the input
`2^122 + 2^61 - 1` would be returned as `PRIME + 1` (defect F10). -/
theorem mersenne_two_rounds_need_ge :
    let val := 2 ^ 122 + 2 ^ 61 - 1
    let v1 := (val &&& fp61.p) + (val >>> fp61.bits)
    let v2 := (v1 &&& fp61.p) + (v1 >>> fp61.bits)
    v2 = fp61.p + 1 := by decide

theorem reduce_eq_mod_fp31 (x : Nat) : reduce fp31 x = x % fp31.p := reduce_eq_mod rfl x
theorem reduce_eq_mod_fp32 (x : Nat) : reduce fp32 x = x % fp32.p := reduce_eq_mod rfl x
theorem reduce_eq_mod_fp61 (x : Nat) (h : x < 340282366920938463463374607431768211456) :
    reduce fp61 x = x % fp61.p := mersenne_reduce_correct x h

/-- No intermediate value of `+`, `-`, `*` overflows the operation store (`u16`/`u64`/`u128`),
for *any* contents of the backing store (not only canonical ones). -/
theorem no_overflow_fp31 (a b : Nat) (ha : a < 2 ^ 8) (hb : b < 2 ^ 8) :
    a + b < 2 ^ 16 ∧ fp31.p + a - b < 2 ^ 16 ∧ a * b < 2 ^ 16 :=
  no_overflow fp31 (by decide) (by decide) (by decide) ha hb
theorem no_overflow_fp32 (a b : Nat) (ha : a < 2 ^ 32) (hb : b < 2 ^ 32) :
    a + b < 2 ^ 64 ∧ fp32.p + a - b < 2 ^ 64 ∧ a * b < 2 ^ 64 :=
  no_overflow fp32 (by decide) (by decide) (by decide) ha hb
theorem no_overflow_fp61 (a b : Nat) (ha : a < 2 ^ 64) (hb : b < 2 ^ 64) :
    a + b < 2 ^ 128 ∧ fp61.p + a - b < 2 ^ 128 ∧ a * b < 2 ^ 128 :=
  no_overflow fp61 (by decide) (by decide) (by decide) ha hb

/-- Every field operation returns the canonical representative of the arithmetic result. -/
theorem add_spec_fp31 (a b : Nat) : add fp31 a b = (a + b) % 31 := reduce_eq_mod_fp31 _
theorem sub_spec_fp31 (a b : Nat) : sub fp31 a b = (31 + a - b) % 31 := reduce_eq_mod_fp31 _
theorem mul_spec_fp31 (a b : Nat) : mul fp31 a b = (a * b) % 31 := reduce_eq_mod_fp31 _
theorem add_spec_fp32 (a b : Nat) : add fp32 a b = (a + b) % 4294967291 := reduce_eq_mod_fp32 _
theorem sub_spec_fp32 (a b : Nat) : sub fp32 a b = (4294967291 + a - b) % 4294967291 := reduce_eq_mod_fp32 _
theorem mul_spec_fp32 (a b : Nat) : mul fp32 a b = (a * b) % 4294967291 := reduce_eq_mod_fp32 _
theorem add_spec_fp61 (a b : Nat) (ha : a < 2 ^ 64) (hb : b < 2 ^ 64) :
    add fp61 a b = (a + b) % 2305843009213693951 :=
  reduce_eq_mod_fp61 _ (no_overflow_fp61 a b ha hb).1
theorem sub_spec_fp61 (a b : Nat) (ha : a < 2 ^ 64) (hb : b < 2 ^ 64) :
    sub fp61 a b = (2305843009213693951 + a - b) % 2305843009213693951 :=
  reduce_eq_mod_fp61 _ (no_overflow_fp61 a b ha hb).2.1
theorem mul_spec_fp61 (a b : Nat) (ha : a < 2 ^ 64) (hb : b < 2 ^ 64) :
    mul fp61 a b = (a * b) % 2305843009213693951 :=
  reduce_eq_mod_fp61 _ (no_overflow_fp61 a b ha hb).2.2

/-- Negation is canonical, `-0 = 0`, and `a + (-a) = 0`, in every generated prime field. -/
theorem neg_spec (P : Params) (hP : P ∈ primeFields) (a : Nat) (ha : a < P.p) :
    neg P a < P.p ∧ neg P 0 = 0 ∧ (a + neg P a) % P.p = 0 :=
  neg_spec_of_lt P ha

/-- Non-vacuity: the boundary element `PRIME - 1` satisfies the hypotheses. -/
example : (30 : Nat) < fp31.p ∧ neg fp31 30 = 1 := by decide

end IpaVerif.C08
