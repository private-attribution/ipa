import IpaVerif.Props.C08
import IpaVerif.Proofs.C08Acc
/-!
# C08 — the deferred-reduction accumulator agrees with the plain field dot product

For `Fp61BitPrime` (`Accumulator<Fp61BitPrime, u128, INTERVAL>` with the extracted `INTERVAL`):
for **every** sequence of canonical operand pairs (any length, in particular around the reduce
interval) the `u128` accumulator never overflows and `take()` equals the dot product computed with a
reduction after every operation, and both equal the exact integer dot product modulo `PRIME`.
The other fields use the generic accumulator (the field itself), i.e. `plainDot` by definition.
-/
namespace IpaVerif.C08
open IpaVerif.PrimeField IpaVerif.Generated IpaVerif.Acc

theorem accumulator_agrees (pairs : List (Nat × Nat)) (h : ∀ ab ∈ pairs, ab.1 < fp61.p ∧ ab.2 < fp61.p) :
    accDot fp61 accInterval pairs = some (plainDot fp61 pairs) ∧
    plainDot fp61 pairs = sumProd pairs % fp61.p := by
  have hfit : (fp61.p - 1) + accInterval * ((fp61.p - 1) * (fp61.p - 1)) < 2 ^ 128 := by decide
  have hpos : 0 < fp61.p := by decide
  have hp64 : fp61.p ≤ 2 ^ 64 := by decide
  have hi : 0 < accInterval := by decide
  exact accDot_eq_plainDot reduce_eq_mod_fp61
    (fun _ _ ha hb => Nat.mul_le_mul (Nat.le_pred_of_lt ha) (Nat.le_pred_of_lt hb)) hfit hpos hp64 hi pairs h

/-- Non-vacuity and the reduce boundary: 65 copies of `(p-1)·(p-1)` do not overflow. -/
example : accDot fp61 accInterval (List.replicate 65 (2305843009213693950, 2305843009213693950)) = some 65 := by
  decide +kernel

/-- the bound is tight: with `INTERVAL = 65` the same input *would* overflow the `u128`. -/
theorem accumulator_interval_65_overflows :
    accDot fp61 65 (List.replicate 65 (2305843009213693950, 2305843009213693950)) = none := by decide +kernel

end IpaVerif.C08
