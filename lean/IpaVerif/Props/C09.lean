import IpaVerif.Proofs.C09Serde
import IpaVerif.Generated.PrimeFields
import IpaVerif.Generated.C09Serde
/-!
# C09 — wire encodings round-trip and reject every non-canonical byte string

The fixed-size `Serializable` encodings. `Ty` ranges over every type expression built from
the prime fields, `Boolean`, the bit-array / GF(2^k) instances regenerated from the macro
invocations, `AdditiveShare<·>` and `StdArray<·, N>` (any `N`); `codecOf t` is the executable model
the correspondence suites `c09_small` / `c09_large` compare with the real `serialize`/`deserialize`.
-/
namespace IpaVerif.C09
open IpaVerif.Util IpaVerif.Serde IpaVerif.Generated

/-- decoding the encoding of a canonical value returns that value -/
theorem decode_encode (t : Ty) (h : t.WF) (v : t.Val) (hv : (codecOf t).canon v) :
    (codecOf t).dec ((codecOf t).enc v) = .ok v :=
  (lawful_codecOf t h).decode_encode v hv

/-- the encoding has exactly the advertised length (and consists of bytes) -/
theorem encode_length (t : Ty) (h : t.WF) (v : t.Val) (hv : (codecOf t).canon v) :
    ((codecOf t).enc v).length = (codecOf t).size ∧ Bytes ((codecOf t).enc v) :=
  (lawful_codecOf t h).encode_length v hv

/-- a byte string is accepted only if it is the canonical encoding of a canonical value -/
theorem decode_canonical (t : Ty) (h : t.WF) (bs : List Nat) (v : t.Val) (hb : Bytes bs)
    (hd : (codecOf t).dec bs = .ok v) : (codecOf t).canon v ∧ (codecOf t).enc v = bs :=
  (lawful_codecOf t h).decode_canonical bs v hb hd

/-- decoding never panics on a buffer of the advertised length -/
theorem decode_total (t : Ty) (h : t.WF) (bs : List Nat) (hl : bs.length = (codecOf t).size) :
    (codecOf t).dec bs ≠ .panic :=
  (lawful_codecOf t h).decode_total bs hl

/-- Hence: a buffer of the right length that is not the encoding of a canonical value is *rejected*
(out-of-range integers, non-zero padding, Booleans > 1, and any composite containing one). -/
theorem decode_rejects (t : Ty) (h : t.WF) (bs : List Nat) (hb : Bytes bs)
    (hl : bs.length = (codecOf t).size)
    (hn : ¬ ∃ v, (codecOf t).canon v ∧ (codecOf t).enc v = bs) : (codecOf t).dec bs = .err := by
  cases hd : (codecOf t).dec bs with
  | ok v => exact absurd ⟨v, decode_canonical t h bs v hb hd⟩ hn
  | err => rfl
  | panic => exact absurd hd (decode_total t h bs hl)

/-- Every instance found in the `boolean_array_impl*!` / `bit_array_impl!` invocations is well formed
(the `infallible` arm is used only where there are no padding bits). -/
theorem generated_bits_wf : ∀ T ∈ bitTypes, T.WF := by decide

/-- Each extracted prime fits its backing store. -/
theorem generated_prime_wf : ∀ P ∈ primeFields, Ty.WF (.prime P) := by
  show ∀ P ∈ primeFields, P.p ≤ 256 ^ (P.storeBits / 8)
  decide

/-- The bytes of `PRIME` itself are rejected: they decode to `p`, and `p < p` fails. -/
theorem rejects_prime (P : PrimeField.Params) (h : P.p < 256 ^ (P.storeBits / 8)) :
    (primeCodec P).dec (leBytes P.p (P.storeBits / 8)) = .err := by
  simp only [primeCodec, leBytes_length, ofLeBytes_leBytes, Nat.mod_eq_of_lt h, ne_eq, not_true_eq_false, if_false,
    Nat.lt_irrefl]

theorem rejects_prime_fp32 : (codecOf (.prime fp32)).dec (leBytes fp32.p 4) = .err := rejects_prime fp32 (by decide)
theorem rejects_prime_fp61 : (codecOf (.prime fp61)).dec (leBytes fp61.p 8) = .err := rejects_prime fp61 (by decide)

theorem rejects_padding_bit (T : BitTy) (hT : T ∈ bitTypes) (hf : T.fallible = true) :
    (bitCodec T).dec (leBytes (2 ^ T.bits) T.bytes) = .err := by
  revert T; decide
theorem rejects_boolean_2 : boolCodec.dec [2] = .err := by decide

/-- Non-vacuity of the hypotheses: a share of arrays of a fallible type is well formed, and has
canonical values. -/
example : Ty.WF (.share (.arr 16 (.bits { name := "BA3", bits := 3, bytes := 1, fallible := true }))) :=
  show BitTy.WF _ by decide
example : (codecOf (.share (.prime fp31))).canon (30, 0) :=
  show 30 < fp31.p ∧ 0 < fp31.p by decide

/-! ## Fp25519 (finding F9): the decoder reduces modulo the group order instead of rejecting -/

theorem fp25519_decode_encode (v : Nat) (hv : v < ell) : fp25519Codec.dec (fp25519Codec.enc v) = .ok v := by
  have h256 : v < 256 ^ 32 := Nat.lt_trans hv (by decide)
  simp only [fp25519Codec, leBytes_length, ofLeBytes_leBytes, Nat.mod_eq_of_lt h256, Nat.mod_eq_of_lt hv]
  simp

theorem fp25519_encode_length (v : Nat) : (fp25519Codec.enc v).length = 32 ∧ Bytes (fp25519Codec.enc v) :=
  ⟨leBytes_length _ _, leBytes_bytes _ _⟩

theorem fp25519_decode_total (bs : List Nat) (hl : bs.length = 32) : fp25519Codec.dec bs ≠ .panic := by
  simp [fp25519Codec, hl]

/-- FULL STATEMENT (false: F9): `∀ bs v, Bytes bs → dec bs = ok v → v < ℓ ∧ enc v = bs`.
Proved only for byte strings whose integer value is already below the group order. -/
theorem fp25519_decode_canonical_partial (bs : List Nat) (v : Nat) (hb : Bytes bs)
    (hlt : ofLeBytes bs < ell) (hd : fp25519Codec.dec bs = .ok v) :
    v < ell ∧ fp25519Codec.enc v = bs := by
  simp only [fp25519Codec] at hd ⊢
  split at hd
  · cases hd
  · rename_i hl
    have hl : bs.length = 32 := by simpa using hl
    cases hd
    rw [Nat.mod_eq_of_lt hlt]
    exact ⟨hlt, by rw [← hl]; exact leBytes_ofLeBytes bs hb⟩

example : ofLeBytes (leBytes 5 32) < ell := by decide

/-- The excluded point: the bytes of ℓ are accepted and decode to 0, whose encoding differs. -/
theorem fp25519_decode_canonical_counterexample :
    fp25519Codec.dec (leBytes ell 32) = .ok 0 ∧ fp25519Codec.enc 0 ≠ leBytes ell 32 := by decide

/-! ## RP25519: canonicity is curve25519-dalek's `decompress` (hypothesis). The RFC 9496 reference decoder of
`Model/Ristretto.lean` is compared with dalek by the suite only; no theorem mentions it. -/

/-- What is assumed of dalek's Ristretto (de)compression. -/
structure DalekRistretto {Pt : Type} (compress : Pt → List Nat) (decompress : List Nat → Option Pt) : Prop where
  compress_len : ∀ p, (compress p).length = 32 ∧ Bytes (compress p)
  decompress_compress : ∀ p, decompress (compress p) = some p
  compress_decompress : ∀ bs p, decompress bs = some p → compress p = bs

theorem rp25519_lawful {Pt : Type} (compress : Pt → List Nat) (decompress : List Nat → Option Pt)
    (H : DalekRistretto compress decompress) : Lawful (rpCodec compress decompress) where
  encode_length p _ := H.compress_len p
  decode_encode p _ := by
    simp only [rpCodec, (H.compress_len p).1, H.decompress_compress p, ne_eq, not_true_eq_false, if_false]
  decode_canonical bs p _ h := by
    simp only [rpCodec] at h
    split at h
    · cases h
    · cases hd : decompress bs with
      | some q =>
        rw [hd] at h
        cases h
        exact ⟨trivial, H.compress_decompress bs _ hd⟩
      | none => rw [hd] at h; cases h
  decode_total bs hl := by
    simp only [rpCodec, show bs.length = 32 from hl, ne_eq, not_true_eq_false, if_false]
    cases decompress bs <;> nofun

/-- Non-vacuity: a two-point toy group satisfies the hypothesis. -/
example : DalekRistretto (Pt := Bool) (fun b => leBytes (if b then 2 else 0) 32)
    (fun bs => if bs = leBytes 0 32 then some false else if bs = leBytes 2 32 then some true else none) where
  compress_len p := ⟨leBytes_length _ _, leBytes_bytes _ _⟩
  decompress_compress p := by cases p <;> decide
  compress_decompress bs p h := by
    split at h
    · next h0 => cases h; exact h0.symm
    · split at h
      · next h2 => cases h; exact h2.symm
      · cases h

end IpaVerif.C09
