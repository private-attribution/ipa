import IpaVerif.Props.C07
/-!
# C07 — `aggregate_values`: pairwise tree reduction with carry growth, then saturation

A pair of rows yields `min(val a + val b, 2^w − 1)` provided the second is not wider than the first.  Saturation
commutes with further addition, so `min(Σ val row, 2^w − 1)` is the same at every level of the tree.  The width
condition is `WidthsDescend`: the odd pass-through row is the narrowest, so it is always the zero-extended second operand.
-/
namespace IpaVerif.C07
open IpaVerif.Sharing IpaVerif.Circuits

theorem aggPair_value (p : Path) (w : Nat) (a b : List Bool) (ha : a.length ≤ w) (hab : b.length ≤ a.length) :
    (aggPair plainAlg p w a b).length = min (a.length + 1) w ∧
    val (aggPair plainAlg p w a b) = min (val a + val b) (2 ^ w - 1) := by
  have hb : val b < 2 ^ a.length := Nat.lt_of_lt_of_le (val_lt b) (Nat.pow_le_pow_right Nat.two_pos hab)
  unfold aggPair
  split
  · next h =>
    -- the row may still grow: `val a + val b < 2^(|a|+1) ≤ 2^w`, nothing saturates
    have hw : 2 ^ a.length + 2 ^ a.length ≤ 2 ^ w := by
      rw [← Nat.mul_two, ← Nat.pow_succ]; exact Nat.pow_le_pow_right Nat.two_pos h
    rw [List.length_append, val_append, integerAdd_length, val_singleton,
      integer_add_value_fits (p ++ [stepAdd]) a b hb,
      Nat.min_eq_left (Nat.le_sub_one_of_lt (Nat.lt_of_lt_of_le (Nat.add_lt_add (val_lt a) hb) hw))]
    exact ⟨(Nat.min_eq_left h).symm, rfl⟩
  · next h =>
    rw [satAdd_length, sat_add_value, Nat.mod_eq_of_lt hb, Nat.le_antisymm ha (Nat.le_of_not_lt h)]
    exact ⟨(Nat.min_eq_right (Nat.le_succ w)).symm, rfl⟩

def WidthsDescend (w : Nat) : List (List Bool) → Prop
  | [] => True
  | a :: rest => a.length ≤ w ∧ (rest.headD []).length ≤ a.length ∧ WidthsDescend w rest

theorem aggLevel_value (p : Path) (w : Nat) (l : List (List Bool)) (i : Nat) (h : WidthsDescend w l) :
    WidthsDescend w (aggLevel plainAlg p w i l) ∧
    ((aggLevel plainAlg p w i l).headD []).length ≤ min ((l.headD []).length + 1) w ∧
    min (((aggLevel plainAlg p w i l).map val).sum) (2 ^ w - 1) = min ((l.map val).sum) (2 ^ w - 1) := by
  induction i, l using aggLevel.induct with
  | case1 i a b rest ih =>
    obtain ⟨ha, hba, _, hrb, hrest⟩ := h
    obtain ⟨ih1, ih2, ih3⟩ := ih hrest
    obtain ⟨hl, hv⟩ := aggPair_value (p ++ [i]) w a b ha hba
    have hh : ((aggLevel plainAlg p w (i + 1) rest).headD []).length ≤ min (a.length + 1) w :=
      have ⟨h1, h2⟩ := Nat.le_min.mp ih2
      Nat.le_min.mpr ⟨Nat.le_trans h1 (Nat.succ_le_succ (Nat.le_trans hrb hba)), h2⟩
    rw [aggLevel, List.headD_cons, List.headD_cons, List.map_cons, List.sum_cons, hv, List.map_cons, List.map_cons,
      List.sum_cons, List.sum_cons, ← Nat.add_assoc]
    refine ⟨⟨hl ▸ Nat.min_le_right .., hl ▸ hh, ih1⟩, Nat.le_of_eq hl, ?_⟩
    -- drop the saturation of the head pair, then exchange the tail's total under the outer `min`
    generalize ((aggLevel plainAlg p w (i + 1) rest).map val).sum = S' at ih3 ⊢
    calc min (min (val a + val b) (2 ^ w - 1) + S') (2 ^ w - 1)
        = min (min S' (2 ^ w - 1) + (val a + val b)) (2 ^ w - 1) := by
          rw [min_add_min, Nat.add_comm, ← min_add_min]
      _ = min (val a + val b + (rest.map val).sum) (2 ^ w - 1) := by
          rw [ih3, min_add_min, Nat.add_comm]
  | case2 i a => exact ⟨h, Nat.le_min.mpr ⟨Nat.le_succ _, h.1⟩, rfl⟩
  | case3 i => exact ⟨trivial, Nat.zero_le _, rfl⟩

theorem aggLevel_length {α : Type} (A : SecureAlg α) (p : Path) (w : Nat) : ∀ (l : List (List α)) (i : Nat),
    (aggLevel A p w i l).length = (l.length + 1) / 2
  | [], _ => by simp [aggLevel]
  | [_], _ => by simp [aggLevel]
  | _ :: _ :: rest, i => by
    rw [aggLevel, List.length_cons, aggLevel_length A p w rest (i + 1)]; simp only [List.length_cons]; omega

theorem aggLoop_value (p : Path) (w : Nat) : ∀ (fuel depth : Nat) (l : List (List Bool)), WidthsDescend w l →
    l.length ≤ fuel + 1 →
    (aggLoop plainAlg p w fuel depth l).length ≤ 1 ∧ WidthsDescend w (aggLoop plainAlg p w fuel depth l) ∧
    min (((aggLoop plainAlg p w fuel depth l).map val).sum) (2 ^ w - 1) = min ((l.map val).sum) (2 ^ w - 1) := by
  intro fuel
  induction fuel with
  | zero => intro d l hg hl; exact ⟨hl, hg, rfl⟩
  | succ fuel ih =>
    intro d l hg hl
    rw [aggLoop]
    split
    · next h => exact ⟨h, hg, rfl⟩
    · obtain ⟨g1, _, g3⟩ := aggLevel_value (p ++ [d]) w l 0 hg
      obtain ⟨i1, i2, i3⟩ := ih (d + 1) _ g1 (by rw [aggLevel_length]; omega)
      exact ⟨i1, i2, i3.trans g3⟩

theorem widthsDescend_of_eq (w tv : Nat) (htv : tv ≤ w) : ∀ (rows : List (List Bool)),
    (∀ r ∈ rows, r.length = tv) → WidthsDescend w rows
  | [], _ => trivial
  | r :: rest, h => by
    refine ⟨h r List.mem_cons_self ▸ htv, ?_, widthsDescend_of_eq w tv htv rest fun x hx => h x (List.mem_cons_of_mem _ hx)⟩
    cases rest with
    | nil => exact Nat.zero_le _
    | cons s _ => exact Nat.le_of_eq ((h s (by simp)).trans (h r List.mem_cons_self).symm)

/-- `aggregate_values::<_, OV, B>` (one histogram column; the `B` columns are independent lanes): ANY number of rows
(0, 1, odd, even — the odd row passes through levels unchanged) of ANY common width `tv ≤ w = OV::BITS`. -/
theorem aggTree_value (p : Path) (w tv : Nat) (htv : tv ≤ w) (rows : List (List Bool))
    (h : ∀ r ∈ rows, r.length = tv) :
    (aggregateValues plainAlg p w rows).length = w ∧
    val (aggregateValues plainAlg p w rows) = min ((rows.map val).sum) (2 ^ w - 1) := by
  refine ⟨length_resizeZero _ w, ?_⟩
  obtain ⟨s1, s2, s3⟩ := aggLoop_value p w rows.length 0 rows (widthsDescend_of_eq w tv htv rows h) (Nat.le_succ _)
  rw [aggregateValues, val_resizeZero, ← s3]
  generalize aggLoop plainAlg p w rows.length 0 rows = o at s1 s2
  match o, s1, s2 with
  | [], _, _ => simp [val]
  | [r], _, ⟨hr, _⟩ =>
    have := Nat.lt_of_lt_of_le (val_lt r) (Nat.pow_le_pow_right Nat.two_pos hr)
    simp only [List.headD_cons, List.map_cons, List.map_nil, List.sum_cons, List.sum_nil, Nat.add_zero, Nat.mod_eq_of_lt this]
    omega
  | _ :: _ :: _, s1, _ => exact absurd s1 (by simp)

/-- `aggTree_value` is not vacuous: an odd number of rows. -/
example : ∀ r ∈ [[true, false], [true, true], [false, true]], r.length = 2 := by decide

end IpaVerif.C07
