import IpaVerif.Model.LifecycleApp
import IpaVerif.Generated.LifecycleApp
import IpaVerif.Props.C18
/-!
# C18 at the `HelperApp` / request-handler level: the handler layer adds no behaviour

`LifecycleApp.handle` transcribes the two `RequestHandler` impls of `app.rs::Inner` arm by arm;
`malformed`, `procOp`, `served`, `needsId`, `expects` are the spec-side tables (what the API promises).
The theorems connect the two for EVERY request (well-formed or not), position and processor state,
and lift the processor-level theorems of `IpaVerif.C18` to histories of requests of any length.
-/
namespace IpaVerif.C18
open IpaVerif.Lifecycle IpaVerif.LifecycleApp IpaVerif.Generated.Lifecycle

def isErr : HResp → Bool
  | .err _ => true
  | _ => false

def isProcErr : Resp → Bool
  | .err _ => true
  | _ => false

def stateIndependent : HErr → Bool
  | .badRequest | .deserialization => true
  | .api _ _ => false

theorem wrap_answer (a : Api) (okp : Payload) (x : Resp) (h : isAnswer x = true) :
    wrap a okp x ≠ .panic := by
  cases x <;> first | (intro h'; cases h'; done) | cases h

theorem wrap_isErr (a : Api) (okp : Payload) (x : Resp) : isErr (wrap a okp x) = isProcErr x := by
  cases x <;> rfl

theorem wrap_err (a : Api) (okp : Payload) (x : Resp) (e : HErr) (h : wrap a okp x = .err e) :
    ∃ e', x = .err e' ∧ e = .api a e' := by
  cases x <;> simp_all [wrap]

theorem procOp_api (r : Req) (a : Api) (op : Op) (h : procOp r = some (a, op)) : isApiOp op = true := by
  unfold procOp at h
  -- every arm of `procOp` names a processor call, never a task event
  split at h
  all_goals first
    | cases h <;> rfl
    | -- the shard-side QueryStatus arm is `(deser …).map …`
      (obtain ⟨st, _, hst⟩ := Option.map_eq_some_iff.1 h; cases hst; rfl)

/-- The payload class of the `HelperResponse::from` the arm of `route` uses. -/
def okPayload : Route → Payload
  | .receiveQuery => .prepared
  | .completeQuery => .result
  | .killQuery => .killed
  | _ => .empty

def refusal (r : Req) : HErr :=
  if !served r.side r.route || (needsId r.side r.route && !r.hasId) then .badRequest else .deserialization

theorem handle_eq (p : Pos) (s : St) (r : Req) : handle p s r =
    if malformed r then (s, .err (refusal r))
    else match procOp r with
      | none => (s, .ok .metrics)
      | some (a, op) => ((step p s op).1, wrap a (okPayload r.route) (step p s op).2) := by
  obtain ⟨side, route, hasId, origin, params, env⟩ := r
  cases side <;> cases route
  -- the arms that deserialize `params`, the arms that take the id through `ext_query_id`, the rest
  case mpc.receiveQuery | mpc.prepareQuery | shard.prepareQuery | shard.queryStatus =>
    rcases params with ⟨_ | _ | _, _⟩ | ⟨_ | _ | _, _⟩ | _ <;> rfl
  case mpc.queryInput | mpc.queryStatus | mpc.completeQuery | mpc.killQuery | shard.completeQuery =>
    cases hasId <;> rfl
  all_goals rfl

/-- The handler layer adds no behaviour. For every request (well-formed or
malformed), position and processor state:
1. the modelled handler returns a response, never `panic`;
2. a malformed request (route not served, `query_id` missing where `ext_query_id` needs it, `params`
   that do not deserialize) is answered with a state-independent error (`BadRequest` /
   `DeserializationFailure`) and leaves the state unchanged;
3. a well-formed Metrics request is answered `ok` and leaves the state unchanged;
4. any other well-formed request does exactly the one processor call `procOp` names: same next
   state, the response is that call's response under `wrap`, so it is an error iff the processor
   call is one, and then it is `ApiError::<variant of that call>(the processor's error)`. -/
theorem handler_total (p : Pos) (s : St) (r : Req) :
    (handle p s r).2 ≠ .panic ∧
    (malformed r = true →
      (∃ e, (handle p s r).2 = .err e ∧ stateIndependent e = true) ∧ (handle p s r).1 = s) ∧
    (malformed r = false → procOp r = none →
      (handle p s r).2 = .ok .metrics ∧ (handle p s r).1 = s) ∧
    (malformed r = false → ∀ a op, procOp r = some (a, op) →
      handle p s r = ((step p s op).1, wrap a (okPayload r.route) (step p s op).2) ∧
      (isErr (handle p s r).2 = isProcErr (step p s op).2) ∧
      (∀ e, (handle p s r).2 = .err e → ∃ e', (step p s op).2 = .err e' ∧ e = .api a e')) := by
  rw [handle_eq]
  refine ⟨?_, fun hm => ?_, fun hm hp => ?_, fun hm a op hop => ?_⟩
  · split
    · nofun
    · split
      · nofun
      next a op hop => exact wrap_answer a _ _ (step_api_answer p s op (procOp_api r a op hop))
  · rw [hm]
    refine ⟨⟨_, rfl, ?_⟩, rfl⟩
    unfold refusal
    split <;> rfl
  · rw [hm, hp]
    exact ⟨rfl, rfl⟩
  · rw [hm, hop]
    exact ⟨rfl, wrap_isErr _ _ _, fun e he => wrap_err _ _ _ _ he⟩

theorem method_is_call (p : Pos) (s : St) (m : Method) (env : Env) :
    callMethod p s m env =
      ((step p s (methodOp m env).2).1,
       wrap (methodOp m env).1 (match m with | .startQuery => .prepared | .completeQuery => .result | _ => .empty)
         (step p s (methodOp m env).2).2) ∧ isApiOp (methodOp m env).2 = true := by
  cases m <;> exact ⟨rfl, rfl⟩

theorem appStep_state (p : Pos) (s : St) (op : AppOp) :
    (appStep p s op).1 = match toOp? op with
      | some o => (step p s o).1
      | none => s := by
  cases op with
  | request r =>
    show (handle p s r).1 = _
    rw [handle_eq]
    simp only [toOp?]
    cases malformed r
    · cases procOp r <;> rfl
    · rfl
  | method m env => cases m <;> rfl
  | taskReturns id o => rfl

/-- A history of requests, `HelperApp` method calls and task events of
any length drives the processor through exactly the states of the processor-level history obtained by
dropping the malformed / Metrics requests and replacing every other request by the call it stands for.
Hence every state-level theorem of `IpaVerif.C18` about `finalState` (forward-only status, failed
create leaves no trace, results once, removal only by request) holds for request histories. -/
theorem handler_refines_processor (p : Pos) (ops : List AppOp) : ∀ s : St,
    finalStateApp p s ops = finalState p s (ops.filterMap toOp?) := by
  induction ops with
  | nil => intro s; rfl
  | cons op rest ih =>
    intro s
    show finalStateApp p (appStep p s op).1 rest = _
    rw [ih, appStep_state, List.filterMap_cons]
    cases toOp? op <;> rfl

def isPanicA : AResp → Bool
  | .resp .panic | .resolved .panic => true
  | _ => false

theorem isPanicA_resp (h : HResp) (hn : h ≠ .panic) : isPanicA (.resp h) = false := by
  cases h <;> simp_all [isPanicA]

theorem appStep_no_panic (p : Pos) (s : St) (op : AppOp) : isPanicA (appStep p s op).2 = false := by
  cases op with
  | request r => exact isPanicA_resp _ (handler_total p s r).1
  | method m env =>
    obtain ⟨h1, h2⟩ := method_is_call p s m env
    show isPanicA (AResp.resp (callMethod p s m env).2) = false
    rw [h1]
    exact isPanicA_resp _ (wrap_answer _ _ _ (step_api_answer p s _ h2))
  | taskReturns id o =>
    have hm := step_move p s (.taskReturns id o)
    simp only [appStep]
    generalize step p s (.taskReturns id o) = x at hm ⊢
    cases hm with
    | resolved _ o => cases o <;> rfl
    | _ => rfl

/-- Along every app-level history (any length; requests well-formed or not, any
origins, any replies of peers and shards, tasks returning Ok/Err) no request is answered by a panic. -/
theorem app_no_panic (p : Pos) (ops : List AppOp) : ∀ (s : St), ∀ x ∈ runApp p s ops, isPanicA x.1 = false := by
  induction ops with
  | nil => intro s x hx; cases hx
  | cons op rest ih =>
    intro s x hx
    simp only [runApp, List.mem_cons] at hx
    rcases hx with rfl | hx
    · exact appStep_no_panic p s op
    · exact ih _ x hx

/-- `Addr.origin` is never read: two requests that differ only in the origin
get the same response and lead to the same state (authentication is the layer above, C20). -/
theorem origin_irrelevant (p : Pos) (s : St) (r : Req) (o : Option Nat) :
    handle p s { r with origin := o } = handle p s r := by
  -- neither `malformed`, `refusal` nor `procOp` mentions the origin
  rw [handle_eq, handle_eq]
  rfl

/-- One app-level item never moves an existing query backwards (lifted `status_monotone_step`). -/
theorem app_status_monotone_step (p : Pos) (s : St) (op : AppOp) (q q' : QS)
    (h : s.entry = some q) (h' : (appStep p s op).1.entry = some q') : qrank q ≤ qrank q' := by
  revert h'
  rw [appStep_state]
  cases toOp? op with
  | none => intro h'; cases h.symm.trans h'; exact Nat.le_refl _
  | some o => exact status_monotone_step p s o q q' h

example : malformed ⟨.mpc, .killQuery, false, none, .other, {}⟩ = true := by decide
example : malformed ⟨.shard, .queryStatus, true, some 1, .proper .prepareQuery .running, {}⟩ = true := by decide
example : malformed ⟨.shard, .queryStatus, false, some 1, .extra .compareStatus .running, {}⟩ = false := by decide
example : (handle ⟨0, true⟩ {} ⟨.mpc, .receiveQuery, false, none, .proper .queryConfig .running, ⟨[.accept, .accept], [], []⟩⟩)
    = ({ entry := some .awaitingInputs }, .ok .prepared) := by decide

/-! ## The tables above are the arms of app.rs

`IpaVerif.Generated.LifecycleApp.{mpcArms, shardArms}` are regenerated from the two
`impl RequestHandler<…> for Inner` blocks of `ipa-core/src/app.rs` on every run. -/

def routeName : Route → String
  | .records => "Records"
  | .receiveQuery => "ReceiveQuery"
  | .prepareQuery => "PrepareQuery"
  | .queryInput => "QueryInput"
  | .queryStatus => "QueryStatus"
  | .completeQuery => "CompleteQuery"
  | .killQuery => "KillQuery"
  | .metrics => "Metrics"

def allRoutes : List Route :=
  [.records, .receiveQuery, .prepareQuery, .queryInput, .queryStatus, .completeQuery, .killQuery, .metrics]

/-- Rust `match`: first arm whose pattern is this variant or the catch-all. -/
def lookupArm (arms : List Generated.LifecycleApp.Arm) (r : Route) : Option Generated.LifecycleApp.Arm :=
  arms.find? (fun a => a.route == routeName r || a.route == "_")

/-- The arm that finally handles the request (the shard handler's CompleteQuery arm hands over to the
MPC handler). -/
def effectiveArm (side : Side) (r : Route) : Option Generated.LifecycleApp.Arm :=
  match side with
  | .mpc => lookupArm Generated.LifecycleApp.mpcArms r
  | .shard =>
    match lookupArm Generated.LifecycleApp.shardArms r with
    | some a => if a.call == "mpc" then lookupArm Generated.LifecycleApp.mpcArms r else some a
    | none => none

def opMethod : Op → String
  | .newQuery _ _ => "new_query"
  | .prepareHelper _ => "prepare_helper"
  | .prepareShard => "prepare_shard"
  | .receiveInputs => "receive_inputs"
  | .queryStatus _ => "query_status"
  | .shardStatus _ => "shard_status"
  | .complete _ => "complete"
  | .kill => "kill"
  | .taskReturns _ _ => ""

def ptypeName : Option PType → String
  | some .queryConfig => "QueryConfig"
  | some .prepareQuery => "PrepareQuery"
  | some .compareStatus => "CompareStatusRequest"
  | none => ""

/-- a well-formed request for `(side, route)` -/
def canonicalReq (side : Side) (route : Route) : Req :=
  { side, route, hasId := true, origin := none,
    params := match expects side route with
      | some t => .proper t .running
      | none => .other }

/-- Does the source arm for `(side, route)` say what the spec tables / the model say? -/
def armAgrees (side : Side) (route : Route) : Bool :=
  match effectiveArm side route with
  | none => false
  | some a =>
    (served side route == (a.call != "reject")) &&
    (needsId side route == a.extId) &&
    (ptypeName (expects side route) == a.into) &&
    (match procOp (canonicalReq side route) with
     | some (_, op) => a.call == opMethod op && a.propagates
     | none => a.call == "reject" || a.call == "metrics")

/-- For both handlers and every `RouteId`, the arm of app.rs (as
regenerated by the translator) serves the route iff `served` says so, takes the id through
`ext_query_id` iff `needsId`, deserializes exactly the type `expects` names, calls exactly the
`Processor` method of `procOp` and lets its result leave through `?` / `HelperResponse::from`; a
missing id is `BadRequest`; the shard handler hands exactly CompleteQuery over to the MPC handler. -/
theorem source_arms_match_spec_tables :
    (∀ side, ∀ route ∈ allRoutes, armAgrees side route = true) ∧
    (∀ route, route ∈ allRoutes) ∧
    Generated.LifecycleApp.extQueryIdErr = "BadRequest" ∧
    (∀ route ∈ allRoutes, ((lookupArm Generated.LifecycleApp.shardArms route).map (·.call) == some "mpc") = (route == .completeQuery)) := by
  refine ⟨?_, ?_, by decide, by decide +kernel⟩
  · intro side; cases side <;> decide +kernel
  · intro route; cases route <;> decide

end IpaVerif.C18
