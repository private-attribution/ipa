import IpaVerif.Model.CircularBuf
import IpaVerif.Proofs.CircularBuf
import IpaVerif.Proofs.OrderingSender
import IpaVerif.Proofs.UnorderedReceiver
/-!
# C14 — send and receive buffers behave as an ordered byte queue under all interleavings

Part (a): `CircularBuf` (`ipa-core/src/helpers/buffers/circular.rs`) refines a FIFO byte queue;
part (b): `OrderingSender` at poll granularity refines the ordered-queue specification;
part (c): `UnorderedReceiver` hands out the fed bytes by index and loses no wake-up.
-/
namespace IpaVerif.C14
open IpaVerif.CircularBuf

/-- **`CircularBuf` refines a FIFO byte queue.**  For every `(capacity, write_size, read_size)`
accepted by `CircularBuf::new` and EVERY sequence of `next().write(m)` / `take()` / `close()`
operations, the trace of the ring buffer — result of each operation (bytes returned by `take`,
or a panic) together with `len`, `can_read`, `can_write`, `is_closed` after it — is the trace of
the reference queue `specStep` over `List Nat`:
* `len = |queue|`;
* `take` returns exactly the first `min(read_size, len)` queued bytes when
  `(closed ∧ queue ≠ []) ∨ len ≥ read_size` (= `can_read`) and `[]` otherwise;
* a write is accepted iff the buffer is open, `capacity − len ≥ write_size` (= `can_write`) and
  the message has `write_size` bytes, and then appends the message; otherwise it panics;
* `close` panics iff already closed.
Panic texts are not compared (`eraseMsg`). -/
theorem circ_refines_queue {cap ws rs : Nat} {b0 : Buf} (hnew : Buf.new cap ws rs = .ok b0)
    (ops : List Op) :
    (run b0 ops).map (fun p => (p.1.eraseMsg, p.2)) = specRun ⟨cap, ws, rs⟩ ⟨[], false⟩ ops :=
  R.run_eq ops (R.new hnew)

/-- `new` accepts exactly: all three sizes positive, `write_size ∣ capacity`, `write_size ∣ read_size`
(note: `read_size ≤ capacity` is documented but *not* checked by the code). -/
theorem circ_new_accepts_iff (cap ws rs : Nat) :
    (∃ b, Buf.new cap ws rs = .ok b) ↔ 0 < cap ∧ 0 < ws ∧ 0 < rs ∧ cap % ws = 0 ∧ rs % ws = 0 := by
  simp only [new_ok_iff]
  exact ⟨fun ⟨_, h, _⟩ => h, fun h => ⟨_, h, rfl⟩⟩

/-- **Cursor invariant** in every reachable state: both cursors stay in `[0, 2·capacity)` and are
multiples of `write_size`, the write cursor is ahead of the read cursor by `len ≤ capacity`
(mod `2·capacity`), and the capacity never changes. -/
theorem circ_cursor_invariant {cap ws rs : Nat} {b0 b : Buf} (hnew : Buf.new cap ws rs = .ok b0)
    (ops : List Op) (h : exec b0 ops = .ok b) :
    b.read < 2 * cap ∧ b.write < 2 * cap ∧ ws ∣ b.read ∧ ws ∣ b.write ∧ b.len ≤ cap ∧
    b.capacity = cap ∧
    ((b.read ≤ b.write ∧ b.len = b.write - b.read) ∨
     (b.write < b.read ∧ b.len = 2 * cap + b.write - b.read)) := by
  obtain ⟨s', r⟩ := R.exec ops (R.new hnew) h
  have hl := len_eq r.inv
  have hc : b.capacity = cap := r.cap_eq
  have hw : b.writeSize = ws := r.ws_eq
  subst hc hw
  refine ⟨r.inv.rLt, r.inv.wLt, r.inv.rAl, r.inv.wAl, len_le r.inv, rfl, ?_⟩
  rw [hl, dist]
  rcases r.inv.ahead with ⟨h1, h2⟩ | ⟨h1, h2⟩
  · exact .inl ⟨h1, if_pos h1⟩
  · exact .inr ⟨h1, if_neg (Nat.not_le_of_lt h1)⟩

/-- A buffer that refuses a write while open is readable, provided `read_size ≤ capacity`
(the configuration `OrderingSender` is used with — C13 `config_aligned`): a full buffer can always
be drained, so a blocked writer is never blocked forever. -/
theorem circ_full_can_read {cap ws rs : Nat} {b0 b : Buf} (hnew : Buf.new cap ws rs = .ok b0)
    (hrs : rs ≤ cap) (ops : List Op) (h : exec b0 ops = .ok b)
    (hopen : b.closed = false) (hfull : b.canWrite = false) : b.canRead = true := by
  obtain ⟨s', r⟩ := R.exec ops (R.new hnew) h
  exact r.full_can_read hrs hopen hfull

/-- Non-vacuity: a concrete accepted configuration with a wrapping read (`read_size ∤ capacity`). -/
example : ∃ b0, Buf.new 6 2 4 = .ok b0 ∧ (run b0 [.write [1, 2], .write [3, 4], .take, .write [5, 6],
    .write [7, 8], .write [9, 10], .take, .close, .take, .take]).map (·.1) =
    [.done, .done, .bytes [1, 2, 3, 4], .done, .done, .done, .bytes [5, 6, 7, 8], .done,
     .bytes [9, 10], .bytes []] := ⟨_, rfl, by decide⟩

section Sender
open IpaVerif.OrderingSender


def itemOk : Except String OrderingSender.Out → Option (Res × List Task) → Prop
  | .error _, none => True
  | .ok o, some (r, req) => o.res = r ∧ ∀ w ∈ req, w ∈ o.woken
  | _, _ => False

def traceOk : List (Except String OrderingSender.Out) → List (Option (Res × List Task)) → Prop
  | [], [] => True
  | a :: as, b :: bs => itemOk a b ∧ traceOk as bs
  | _, _ => False

theorem run_refines (ops : List OrderingSender.Op) : ∀ {s : State} {p : Spec}, SR s p →
    traceOk (OrderingSender.run s ops) (p.run ops) := by
  induction ops with
  | nil => intros; exact trivial
  | cons op rest ih =>
    intro s p h
    simp only [OrderingSender.run, Spec.run]
    cases h1 : OrderingSender.step s op with
    | error e =>
      rw [(sim_step h op).1 e h1]
      exact ⟨trivial, trivial⟩
    | ok x =>
      obtain ⟨s', o⟩ := x
      obtain ⟨p', req, h2, hw, hsr⟩ := (sim_step h op).2 _ _ h1
      rw [h2]
      exact ⟨⟨rfl, hw⟩, ih hsr⟩

/-- What an observer of the polls sees: bytes emitted by the stream, bytes of the accepted messages
in acceptance order, the indices of the accepted sends/closes in acceptance order, whether a close
was accepted, whether `Ready(None)` was seen, whether every chunk emitted before the close had
exactly `rs` bytes, and whether everything accepted had been emitted whenever `Ready(None)` was seen. -/
structure Ghost where
  emitted : List Nat := []
  accepted : List Nat := []
  readyIdx : List Nat := []
  closedSeen : Bool := false
  finishedSeen : Bool := false
  chunksOk : Bool := true
  drainedAtFinish : Bool := true

def ghostStep (rs : Nat) (g : Ghost) (op : OrderingSender.Op) (r : Res) : Ghost :=
  match op, r with
  | .pollSend _ i m, .ready => { g with accepted := g.accepted ++ m, readyIdx := g.readyIdx ++ [i] }
  | .pollClose _ i, .ready => { g with readyIdx := g.readyIdx ++ [i], closedSeen := true }
  | .pollTake _, .chunk v =>
    { g with emitted := g.emitted ++ v,
             chunksOk := g.chunksOk && (g.closedSeen || (v.length == rs)) }
  | .pollTake _, .finished =>
    { g with finishedSeen := true, drainedAtFinish := g.drainedAtFinish && (g.emitted == g.accepted) }
  | _, _ => g

def observe (rs : Nat) (g : Ghost) : List OrderingSender.Op → List (Except String OrderingSender.Out) → Ghost
  | op :: ops, .ok o :: tr => observe rs (ghostStep rs g op o.res) ops tr
  | _, _ => g

structure GI (p : Spec) (g : Ghost) : Prop where
  bytes : g.emitted ++ p.q = g.accepted
  idx : g.readyIdx = List.range p.next
  closed : g.closedSeen = p.closed
  chunks : g.chunksOk = true
  drained : g.drainedAtFinish = true

theorem GI_step {p p' : Spec} {g : Ghost} {op : OrderingSender.Op} {r : Res} {req : List Task}
    (h : GI p g) (hs : p.step op = some (p', r, req)) : GI p' (ghostStep p.rs g op r) := by
  have same : ∀ {p'' : Spec}, p''.q = p.q → p''.next = p.next → p''.closed = p.closed → GI p'' g :=
    fun hq hn hc => ⟨hq ▸ h.bytes, hn ▸ h.idx, hc ▸ h.closed, h.chunks, h.drained⟩
  cases Spec.step_some hs with
  | sendFull | sendPark | closePark => exact same rfl rfl rfl
  | send t m =>
    refine ⟨?_, ?_, h.closed, h.chunks, h.drained⟩
    · show g.emitted ++ (p.q ++ m) = g.accepted ++ m
      rw [← List.append_assoc, h.bytes]
    · show g.readyIdx ++ [p.next] = List.range (p.next + 1)
      rw [h.idx, List.range_succ]
  | close t =>
    refine ⟨h.bytes, ?_, rfl, h.chunks, h.drained⟩
    show g.readyIdx ++ [p.next] = List.range (p.next + 1)
    rw [h.idx, List.range_succ]
  | take t hcr =>
    refine ⟨?_, h.idx, h.closed, ?_, h.drained⟩
    · show g.emitted ++ p.q.take _ ++ p.q.drop _ = g.accepted
      rw [List.append_assoc, List.take_append_drop, h.bytes]
    · -- a chunk shorter than `rs` is only emitted once closed
      show (g.chunksOk && (g.closedSeen || ((p.q.take (min p.rs p.q.length)).length == p.rs))) = true
      have hcr' : (p.closed = true ∧ p.q ≠ []) ∨ p.rs ≤ p.q.length := by simpa [Spec.canRead] using hcr
      rw [h.chunks, h.closed, Bool.true_and, Bool.or_eq_true, beq_iff_eq, List.length_take]
      rcases hcr' with ⟨hc, _⟩ | hl
      · exact .inl hc
      · right; omega
  | takeWait t hcr =>
    by_cases hc : p.closed = true
    · -- end of stream: not readable while closed means the queue is empty
      have hq : p.q = [] := by
        cases hq : p.q with
        | nil => rfl
        | cons a l => simp [Spec.canRead, hc, hq] at hcr
      rw [if_pos hc]
      refine ⟨h.bytes, h.idx, h.closed, h.chunks, ?_⟩
      show (g.drainedAtFinish && (g.emitted == g.accepted)) = true
      rw [h.drained, Bool.true_and, beq_iff_eq, ← h.bytes, hq, List.append_nil]
    · rw [if_neg hc]
      exact same rfl rfl rfl

theorem observe_inv (ops : List OrderingSender.Op) : ∀ {s : State} {p : Spec} {g : Ghost},
    SR s p → GI p g → ∃ p', GI p' (observe p.rs g ops (OrderingSender.run s ops)) ∧ p'.rs = p.rs := by
  induction ops with
  | nil => intro s p g _ hg; exact ⟨p, hg, rfl⟩
  | cons op rest ih =>
    intro s p g h hg
    simp only [OrderingSender.run]
    cases h1 : OrderingSender.step s op with
    | error e => exact ⟨p, hg, rfl⟩
    | ok x =>
      obtain ⟨s', o⟩ := x
      obtain ⟨p', req, h2, _, hsr⟩ := (sim_step h op).2 _ _ h1
      have hrs := (Spec.step_cfg h2).2.2
      obtain ⟨p'', hg'', hrs''⟩ := ih hsr (GI_step hg h2)
      exact ⟨p'', hrs ▸ hg'', hrs''.trans hrs⟩

/-- **`OrderingSender` refines the ordered-queue specification, for every poll schedule.**
Any sequence of polls of `send(i, m)` / `close(i)` futures and of the stream — any indices, any
order, re-polls, any number of tasks and wakers — gives, poll by poll, the result (`Ready`,
`Pending`, chunk, end of stream, panic) of the specification `Spec` (a FIFO byte queue plus the index
`next`), and every waker the specification requires to be woken at that poll (the parked poll for
the index that has just become `next`; the parked stream when `read_size` bytes become available or
the sender is closed; the writer parked on a full buffer when a read makes room) is woken by the
implementation at that very poll: **no wake-up is lost**.  In particular `waiting.add` is never
rejected at poll granularity (the outcome `spin` is unreachable). -/
theorem sender_refines_spec {cap ws rs : Nat} {s0 : State} (hnew : State.new cap ws rs = .ok s0)
    (ops : List OrderingSender.Op) :
    traceOk (OrderingSender.run s0 ops) (Spec.run { cap, ws, rs } ops) :=
  run_refines ops (SR_init hnew)

/-- **The emitted stream is `msg 0 ‖ msg 1 ‖ …`** for every poll schedule: with `g` = what an
observer of the polls computes from requests and results alone,
* the messages were accepted in index order `0, 1, 2, …` whatever the order of arrival
  (`readyIdx = range n`; a duplicate or stale index is a panic, see `Spec.step`),
* the concatenation of the emitted chunks is a prefix of the concatenation of the accepted messages
  (in index order), the rest being exactly what is still buffered,
* every chunk emitted before `close` was accepted has exactly `read_size` bytes,
* when the stream reports its end (`Ready(None)`) everything accepted has been emitted. -/
theorem sender_stream_is_concat {cap ws rs : Nat} {s0 : State} (hnew : State.new cap ws rs = .ok s0)
    (ops : List OrderingSender.Op) :
    let g := observe rs {} ops (OrderingSender.run s0 ops)
    (∃ buffered, g.emitted ++ buffered = g.accepted) ∧
    g.readyIdx = List.range g.readyIdx.length ∧ g.chunksOk = true ∧ g.drainedAtFinish = true := by
  have h0 : GI { cap, ws, rs } {} := ⟨rfl, rfl, rfl, rfl, rfl⟩
  obtain ⟨p', hg, _⟩ := observe_inv ops (SR_init hnew) h0
  refine ⟨⟨p'.q, hg.bytes⟩, ?_, hg.chunks, hg.drained⟩
  rw [hg.idx, List.length_range]

/-- Poll-level wake-up invariant of every reachable state (any schedule without panic): the
per-shard waker lists are sorted by index and `woken_at ≤ next` in every shard, so a registration
(`waiting.add`) is never rejected and the waker saved for an index is always found by
`WaitingShard::wake` (the woken-at guard never fires at poll granularity; it exists for the
interleavings *inside* a poll, which are outside this model).  That the right waker is woken at the
right poll is `sender_refines_spec`. -/
theorem no_lost_wakeup {cap ws rs : Nat} {s0 s : State} (hnew : State.new cap ws rs = .ok s0)
    (ops : List OrderingSender.Op) (h : OrderingSender.exec s0 ops = .ok s) :
    (∀ k, (s.shards k).wakers.Pairwise (fun a b => a.i < b.i)) ∧
    (∀ k, (s.shards k).wokenAt ≤ s.next) ∧
    (∀ i t, ∃ s', s.waitingAdd i t = .ok s') := by
  obtain ⟨p', hsr, _⟩ := (SR_init hnew).exec ops h
  refine ⟨hsr.shards.sorted, hsr.shards.woken_le, ?_⟩
  intro i t
  obtain ⟨s', hs', _⟩ := waitingAdd_spec s i t hsr.shards
  exact ⟨s', hs'⟩

example : ∃ s0, State.new 4 2 2 = .ok s0 ∧
    (OrderingSender.run s0 [.pollSend 11 1 [3, 4], .pollSend 10 0 [1, 2], .pollTake 99]).map
      (fun r => r.toOption.map (·.res)) = [some .pending, some .ready, some (.chunk [1, 2])] :=
  ⟨_, rfl, by decide⟩

end Sender

/-! ## Part (c): `UnorderedReceiver`

Granularity: unlike `OrderingSender` (whose accesses to `next`, the waiting shards and the state
mutex interleave *inside* a poll — see `Props/C14Atomic.lean`), **all** state of `UnorderedReceiver`
(`next`, `spare`, `wakers`, `overflow_wakers` and the wrapped `stream` itself) lives in one
`Arc<Mutex<OperatingState>>`; `Receiver::poll` takes that lock in its first statement
(`let mut recv = this.shared_state.lock().unwrap();`) and holds the guard until it returns,
including the poll of the underlying stream.  There are no atomics or other shared cells.  Hence two
polls can never interleave: a poll IS an atomic step and the poll-level model below *is* the
atomic-level model; "all interleavings" = all sequences of polls/feeds, which is what
`receiver_indexing` / `receiver_wakeups` quantify over.  The structure this argument rests on is
checked by the translator items `buffers.atomic.receiver.*`. -/
section Receiver
open IpaVerif.UnorderedReceiver

structure RGhost where
  fed : List Nat := []
  next : Nat := 0
  ended : Bool := false

def RGhost.after (g : RGhost) (op : UnorderedReceiver.Op) (o : UnorderedReceiver.Out) : RGhost :=
  match op, o.res with
  | .feed c, _ => { g with fed := g.fed ++ c }
  | .finish, _ => { g with ended := true }
  | .recv _ _, .ok _ => { g with next := g.next + 1 }
  | .recv _ _, _ => g

def recvItemOk (sz : Nat) (g : RGhost) (op : UnorderedReceiver.Op) (o : UnorderedReceiver.Out) : Prop :=
  match op with
  | .recv _ i =>
    (∀ m, o.res = .ok m → i = g.next ∧ m = (g.fed.drop (i * sz)).take sz ∧ (i + 1) * sz ≤ g.fed.length) ∧
    (∀ n, o.res = .eos n → n = i ∧ i = g.next ∧ g.ended = true ∧ g.fed.length < (i + 1) * sz) ∧
    (o.res = .pending → i > g.next ∨ (i = g.next ∧ g.ended = false ∧ g.fed.length < (i + 1) * sz)) ∧
    o.res ≠ .none
  | _ => True

def recvTraceOk (sz : Nat) : RGhost → List UnorderedReceiver.Op → List (Except String UnorderedReceiver.Out) → Prop
  | _, [], [] => True
  | g, op :: ops, .ok o :: tr => recvItemOk sz g op o ∧ recvTraceOk sz (g.after op o) ops tr
  | g, op :: _, [.error _] => ∃ t i, op = .recv t i ∧ i < g.next
  | _, _, _ => False

theorem recv_run_ok (ops : List UnorderedReceiver.Op) : ∀ {s : State} {g : RGhost},
    RInv s g.fed → s.next = g.next → s.ended = g.ended →
    recvTraceOk s.sz g ops (UnorderedReceiver.run s ops) := by
  induction ops with
  | nil => intros; exact trivial
  | cons op rest ih =>
    intro s g h hn he
    simp only [UnorderedReceiver.run]
    cases hs : UnorderedReceiver.step s op with
    | error e =>
      obtain ⟨t, i, hop, hlt⟩ := step_error hs
      exact ⟨t, i, hop, hn ▸ hlt⟩
    | ok x =>
      obtain ⟨s', o⟩ := x
      obtain ⟨hinv', hsz, hcap, hend, hnext, hrecv⟩ := recv_step h hs
      refine ⟨?_, ?_⟩
      · cases op with
        | feed c => trivial
        | finish => trivial
        | recv t i =>
          have hr := hrecv t i rfl
          refine ⟨?_, ?_, ?_, hr.not_none⟩
          · intro m hm
            obtain ⟨a, b, c, _⟩ := hr.ok_slice m hm
            exact ⟨by omega, b, c⟩
          · intro n hn'
            obtain ⟨a, b, c, d⟩ := hr.eos_short n hn'
            exact ⟨a, by omega, by rw [← he]; exact c, d⟩
          · intro hp
            rcases hr.pending hp with h1 | ⟨h1, h2, h3⟩
            · left; omega
            · right; exact ⟨by omega, by rw [← he]; exact h2, h3⟩
      · rw [← hsz]
        obtain ⟨res, woken⟩ := o
        apply ih
        · cases op with
          | feed c => exact hinv'
          | finish => exact hinv'
          | recv t i => cases res <;> exact hinv'
        · cases op with
          | feed c => cases hs; exact hn
          | finish => cases hs; exact hn
          | recv t i => cases res <;> exact hnext.trans (by rw [hn]; rfl)
        · cases op with
          | feed c => exact hend.trans he
          | finish => exact hend
          | recv t i => cases res <;> exact hend.trans he

/-- **Indexing.**  For every message size, capacity ≥ 2, every chunking of the byte stream (empty
chunks included) and every order and timing of `recv(i)` polls relative to the arrival of data:
a poll of `recv(i)` that resolves returns exactly bytes `[i·sz, (i+1)·sz)` of the stream, requests
resolve in index order, `recv(i)` stays pending only while it is not its turn or the bytes have not
arrived, `EndOfStream(i)` is returned only to the request whose turn it is, after the stream ended
with fewer than `(i+1)·sz` bytes, and the only panic is polling a request already fulfilled. -/
theorem receiver_indexing {sz cap : Nat} {s0 : State} (hnew : State.new sz cap = .ok s0)
    (ops : List UnorderedReceiver.Op) :
    recvTraceOk sz {} ops (UnorderedReceiver.run s0 ops) := by
  obtain ⟨h1, h2, h3, h4, _⟩ := RInv.init hnew
  have := recv_run_ok ops (s := s0) (g := {}) h1 h2 h3
  rw [h4] at this
  exact this

/-- **Wake-ups.**  In every reachable state (any chunking, any order/timing of polls) a parked
request `j` is strictly ahead of `next`: it sits in ring slot `j % c` if `j ≤ next + c`, otherwise in
the overflow list with `j > ⌊next⌋_{c/2} + c`; so no request whose turn has come is ever left
parked.  When request `next` resolves, the waker parked for `next + 1` (necessarily in the ring, at
the slot `wake_next` looks at) is woken in that same poll, and the whole overflow list is woken
whenever the new `next` is a multiple of `c/2` (hence before any overflowed index can become `next`). -/
theorem receiver_wakeups {sz cap : Nat} {s0 s : State} (hnew : State.new sz cap = .ok s0)
    (ops : List UnorderedReceiver.Op) (h : UnorderedReceiver.exec s0 ops = .ok s) :
    (∀ k w j, s.ring k = some (w, j) → j % cap = k ∧ s.next < j ∧ j ≤ s.next + cap) ∧
    (∀ w j, (w, j) ∈ s.overflow → j > s.next - s.next % (cap / 2) + cap ∧ j > s.next) ∧
    (∀ t s' o m, UnorderedReceiver.step s (.recv t s.next) = .ok (s', o) → o.res = .ok m →
      (∀ w0 j, s.ring ((s.next + 1) % cap) = some (w0, j) → j = s.next + 1 ∧ w0 ∈ o.woken) ∧
      ((s.next + 1) % (cap / 2) = 0 → ∀ w j, (w, j) ∈ s.overflow → w ∈ o.woken)) := by
  obtain ⟨h1, _, _, _, h5⟩ := RInv.init hnew
  obtain ⟨fed, hinv, hcap⟩ := h1.exec ops h
  rw [h5] at hcap
  rw [← hcap]
  refine ⟨hinv.ring, ?_, ?_⟩
  · intro w j hm
    have := hinv.ov w j hm
    have h2 := Nat.mod_le s.next (s.cap / 2)
    have hh : 0 < s.cap / 2 := Nat.div_pos hinv.hcap (by omega)
    have h3 := Nat.mod_lt s.next hh
    have h4 : s.cap / 2 ≤ s.cap := Nat.div_le_self _ _
    exact ⟨this, by omega⟩
  · intro t s' o m hs hres
    obtain ⟨_, _, _, _, _, hrecv⟩ := recv_step hinv hs
    have hr := hrecv t s.next rfl
    exact ⟨hr.wake_ring m hres, fun h0 w j hm => hr.wake_overflow m hres h0 w j hm⟩

example : ∃ s0, State.new 2 2 = .ok s0 ∧
    (UnorderedReceiver.run s0 [.recv 1 1, .recv 3 3, .feed [1], .feed [2, 3, 4], .recv 0 0]).map
      (fun r => r.toOption) =
    [some ⟨.pending, []⟩, some ⟨.pending, []⟩, some ⟨.none, []⟩, some ⟨.none, []⟩, some ⟨.ok [1, 2], [1, 3]⟩] :=
  ⟨_, rfl, by decide⟩

end Receiver
end IpaVerif.C14
