import IpaVerif.Model.DzkpValidator
import IpaVerif.Proofs.C03Order
/-!
# C03 — honest batches are accepted whatever the order in which records are pushed

`MaliciousDZKPValidator::new` hands the `Batcher` a constructor closure that decides, per proof batch, the
record id every per-gate store of that batch lays its segments out against (`first_record`). The closure is
machine-translated (`IpaVerif.Generated.DzkpValidator.firstRecordOf`); the validator's tables are modelled in
`IpaVerif.Model.DzkpValidator`.

`push_order_irrelevant` together with `C03Batch.honest_accept` (a batch whose table holds consistent
multiplications is accepted): honest batches are accepted whatever the push order.
-/
namespace IpaVerif.C03Order
open IpaVerif.DzkpStore IpaVerif.DzkpValidator IpaVerif.Generated.DzkpValidator IpaVerif.C03

/-- the code as it is: for every batch size other than `usize::MAX` batch `b` is anchored at record
`b · records_per_batch`, batch 0 included. -/
theorem firstRecordOf_explicit (rpb b : Nat) (h : rpb ≠ usizeMax) : firstRecordOf rpb b = some (b * rpb) := by
  unfold firstRecordOf
  simp [h]

theorem firstRecordOf_single_shot (b : Nat) : firstRecordOf usizeMax b = none := by
  unfold firstRecordOf
  simp

/-- a fold that stops at the first panic (the shape of `Tables.pushAll`, `insertAll`, `DzkpAtomic.run`). -/
def foldO {σ α : Type} (f : σ → α → Outcome σ) : σ → List α → Outcome σ
  | s, [] => .ok s
  | s, a :: l => match f s a with
    | .ok s' => foldO f s' l
    | .panic m => .panic m

theorem foldO_perm {σ α : Type} (f : σ → α → Outcome σ) (Inv : σ → Prop) (P : α → Prop) (R : α → α → Prop)
    (hsymm : ∀ {a b}, R a b → R b a)
    (hstep : ∀ s a, Inv s → P a → ∃ s', f s a = .ok s' ∧ Inv s')
    (hcomm : ∀ s a b, Inv s → P a → P b → R a b →
      ∃ sa sb sab, f s a = .ok sa ∧ f sa b = .ok sab ∧ f s b = .ok sb ∧ f sb a = .ok sab)
    {l₁ l₂ : List α} (hp : l₁.Perm l₂) :
    (∀ a ∈ l₁, P a) → l₁.Pairwise R → ∀ s, Inv s → foldO f s l₁ = foldO f s l₂ := by
  induction hp with
  | nil => intros; rfl
  | cons a _ ih =>
    intro hP hR s hs
    obtain ⟨s', e, hs'⟩ := hstep s a hs (hP a (by simp))
    simp only [foldO, e]
    exact ih (fun x hx => hP x (by simp [hx])) (List.pairwise_cons.1 hR).2 s' hs'
  | swap a b l =>
    intro hP hR s hs
    have hab : R b a := (List.pairwise_cons.1 hR).1 a (by simp)
    obtain ⟨sa, sb, sab, e1, e2, e3, e4⟩ := hcomm s b a hs (hP b (by simp)) (hP a (by simp)) hab
    simp only [foldO, e1, e2, e3, e4]
  | trans p₁ p₂ ih₁ ih₂ =>
    intro hP hR s hs
    rw [ih₁ hP hR s hs]
    exact ih₂ (fun x hx => hP x (p₁.mem_iff.2 hx)) ((p₁.pairwise_iff hsymm).1 hR) s hs

theorem foldO_perm_ok {σ α : Type} (f : σ → α → Outcome σ) (Inv : σ → Prop) (P : α → Prop) (R : α → α → Prop)
    (hsymm : ∀ {a b}, R a b → R b a)
    (hstep : ∀ s a, Inv s → P a → ∃ s', f s a = .ok s' ∧ Inv s')
    (hcomm : ∀ s a b, Inv s → P a → P b → R a b →
      ∃ sa sb sab, f s a = .ok sa ∧ f sa b = .ok sab ∧ f s b = .ok sb ∧ f sb a = .ok sab)
    {l₁ l₂ : List α} (hp : l₁.Perm l₂) (hP : ∀ a ∈ l₁, P a) (hR : l₁.Pairwise R) (s : σ) (hs : Inv s) :
    ∃ s', foldO f s l₁ = .ok s' ∧ foldO f s l₂ = .ok s' := by
  have ok : ∀ (l : List α) (s : σ), Inv s → (∀ a ∈ l, P a) → ∃ s', foldO f s l = .ok s' := by
    intro l
    induction l with
    | nil => exact fun s _ _ => ⟨s, rfl⟩
    | cons a l ih =>
      intro s hs hP
      obtain ⟨s', e, hs'⟩ := hstep s a hs (hP a (by simp))
      obtain ⟨s'', e'⟩ := ih s' hs' (fun x hx => hP x (by simp [hx]))
      exact ⟨s'', by simp only [foldO, e, e']⟩
  obtain ⟨s', e⟩ := ok l₁ s hs hP
  exact ⟨s', e, foldO_perm f Inv P R hsymm hstep hcomm hp hP hR s hs ▸ e⟩

/-- Everything `Tables.push` reads and writes: the batch size, the header `(max, first_record)` of every batch
and the per-gate stores. -/
structure Obs where
  rpb : Nat
  hdr : Nat → Nat × Option Nat
  store : Nat → String → Option Store

def obs (t : Tables) : Obs :=
  { rpb := t.rpb, hdr := fun b => ((t.get b).max, (t.get b).first), store := fun b g => t.store b g }

abbrev Op := String × Nat × Segment

def stepObs (o : Obs) (op : Op) : Outcome Obs :=
  let b := op.2.1 / o.rpb
  if ¬ segmentOk op.2.2 then .panic "needs to be smaller or a multiple of 256" else
  match ((o.store b op.1).getD { first := (o.hdr b).2, max := (o.hdr b).1, width := op.2.2.width, vec := [] }).insert
      op.2.1 op.2.2 with
  | .ok st' => .ok { o with store := fun b' g' => if b' = b ∧ g' = op.1 then some st' else o.store b' g' }
  | .panic m => .panic m

def Outcome.map {α β : Type} (f : α → β) : Outcome α → Outcome β
  | .ok a => .ok (f a)
  | .panic m => .panic m

theorem find_insertSorted (g : String) (st : Store) (g' : String) : ∀ l : List (String × Store),
    ((insertSorted g st l).find? (·.1 == g')).map (·.2) =
      if g' = g then some st else (l.find? (·.1 == g')).map (·.2) := by
  intro l
  induction l with
  | nil => by_cases e : g = g' <;> simp [insertSorted, e, Ne.symm]
  | cons hd rest ih =>
    obtain ⟨h, s⟩ := hd
    unfold insertSorted
    by_cases h1 : g < h
    · rw [if_pos h1]
      by_cases e : g = g' <;> simp [e, Ne.symm]
    · rw [if_neg h1]
      by_cases h2 : g = h
      · subst h2
        rw [if_pos rfl]
        by_cases e : g = g' <;> simp [e, Ne.symm]
      · rw [if_neg h2, List.find?_cons, List.find?_cons]
        by_cases e : h = g'
        · subst e; simp [Ne.symm h2]
        · rw [beq_eq_false_iff_ne.2 e]; exact ih

theorem get_cons (t : Tables) (b : Nat) (bt : Batch) (b' : Nat) :
    ({ t with batches := (b, bt) :: t.batches } : Tables).get b' = if b' = b then bt else t.get b' := by
  unfold Tables.get Tables.fresh
  by_cases h : b' = b
  · subst h; simp
  · have : ¬ b = b' := fun x => h x.symm
    simp [h, this]

/-- a push reads and writes only what `Obs` shows: the model's `Tables.push`, seen through `obs`, is
`stepObs`. -/
theorem obs_push (t : Tables) (g : String) (r : Nat) (s : Segment) :
    Outcome.map obs (t.push g r s) = stepObs (obs t) (g, r, s) := by
  unfold Tables.push Tables.pushAt Batch.push stepObs
  simp only [obs]
  by_cases hok : segmentOk s = true
  · simp only [hok, not_true_eq_false, if_false]
    have hcur : (((t.get (r / t.rpb)).inner.find? (·.1 == g)).map (·.2)) = t.store (r / t.rpb) g := rfl
    rw [hcur]
    cases hins : ((t.store (r / t.rpb) g).getD
        { first := (t.get (r / t.rpb)).first, max := (t.get (r / t.rpb)).max, width := s.width, vec := [] }).insert r s with
    | panic m => simp only [Outcome.map]
    | ok st' =>
      simp only [Outcome.map, obs, Tables.store, get_cons]
      congr 2
      · funext b'
        by_cases hb : b' = r / t.rpb <;> simp [hb]
      · funext b' g'
        by_cases hb : b' = r / t.rpb <;> simp [hb, find_insertSorted]
  · simp only [hok, Bool.false_eq_true, not_false_eq_true, if_true, Outcome.map]

theorem obs_pushAll : ∀ (ops : List Op) (t : Tables),
    Outcome.map obs (t.pushAll ops) = foldO stepObs (obs t) ops := by
  intro ops
  induction ops with
  | nil => intro t; rfl
  | cons op rest ih =>
    intro t
    obtain ⟨g, r, s⟩ := op
    unfold Tables.pushAll foldO
    rw [← obs_push]
    cases t.push g r s with
    | panic m => rfl
    | ok t' => exact ih t'

/-- every batch `b` is anchored at `b · rpb`, and so is every store created so far. -/
structure OInv (w : String → Nat) (o : Obs) : Prop where
  pos : 0 < o.rpb
  hdr : ∀ b, o.hdr b = (o.rpb, some (b * o.rpb))
  stores : ∀ b g st, o.store b g = some st → st.first = some (b * o.rpb) ∧ st.max = o.rpb ∧ st.width = w g

def OpOk (w : String → Nat) (op : Op) : Prop := op.2.2.width = w op.1 ∧ segmentOk op.2.2 = true

/-- the store a push of gate `g` into batch `b` works on. -/
def cur (o : Obs) (b : Nat) (g : String) (width : Nat) : Store :=
  (o.store b g).getD { first := (o.hdr b).2, max := (o.hdr b).1, width := width, vec := [] }

/-- what a successful `stepObs` does: replace the store of one (batch, gate). -/
def put (o : Obs) (b : Nat) (g : String) (st : Store) : Obs :=
  { o with store := fun b' g' => if b' = b ∧ g' = g then some st else o.store b' g' }

theorem cur_put_same (o : Obs) (b : Nat) (g : String) (st : Store) (wd : Nat) : cur (put o b g st) b g wd = st := by
  simp [cur, put]

theorem cur_put_other (o : Obs) (b : Nat) (g : String) (st : Store) (b' : Nat) (g' : String) (wd : Nat)
    (h : ¬ (b' = b ∧ g' = g)) : cur (put o b g st) b' g' wd = cur o b' g' wd := by
  simp [cur, put, h]

theorem put_put_same (o : Obs) (b : Nat) (g : String) (s₁ s₂ : Store) : put (put o b g s₁) b g s₂ = put o b g s₂ := by
  unfold put
  congr 1
  funext b' g'
  dsimp only
  by_cases h : b' = b ∧ g' = g
  · rw [if_pos h, if_pos h]
  · rw [if_neg h, if_neg h, if_neg h]

theorem put_comm (o : Obs) (b₁ : Nat) (g₁ : String) (s₁ : Store) (b₂ : Nat) (g₂ : String) (s₂ : Store)
    (h : ¬ (b₁ = b₂ ∧ g₁ = g₂)) : put (put o b₁ g₁ s₁) b₂ g₂ s₂ = put (put o b₂ g₂ s₂) b₁ g₁ s₁ := by
  unfold put
  congr 1
  funext b' g'
  dsimp only
  by_cases h1 : b' = b₁ ∧ g' = g₁
  · have h2 : ¬ (b' = b₂ ∧ g' = g₂) := fun h2 => h ⟨h1.1.symm.trans h2.1, h1.2.symm.trans h2.2⟩
    rw [if_neg h2, if_pos h1, if_pos h1]
  · rw [if_neg h1, if_neg h1]

theorem cur_anchored {w : String → Nat} {o : Obs} (hI : OInv w o) (b : Nat) (g : String) :
    StoreAt (b * o.rpb) o.rpb (w g) (cur o b g (w g)) := by
  unfold cur StoreAt
  cases h : o.store b g with
  | none => simp [hI.hdr b]
  | some st => simpa using hI.stores b g st h

theorem put_inv {w : String → Nat} {o : Obs} (hI : OInv w o) {b : Nat} {g : String} {st : Store}
    (ha : StoreAt (b * o.rpb) o.rpb (w g) st) : OInv w (put o b g st) := by
  refine ⟨hI.pos, hI.hdr, fun b' g' st' h => ?_⟩
  by_cases hk : b' = b ∧ g' = g
  · simp only [put, hk, and_self, if_true, Option.some.injEq] at h
    rw [← h, hk.1, hk.2]
    exact ha
  · simp only [put, hk, if_false] at h
    exact hI.stores b' g' st' h

theorem in_batch (rpb r : Nat) (hpos : 0 < rpb) : r / rpb * rpb ≤ r ∧ r < rpb + r / rpb * rpb := by
  have h1 := Nat.div_mul_le_self r rpb
  have h2 := Nat.lt_div_mul_add (a := r) hpos
  omega

theorem stepObs_of_insert {w : String → Nat} (o : Obs) (g : String) (r : Nat) (s : Segment) (hop : OpOk w (g, r, s))
    {b : Nat} (hb : r / o.rpb = b) {c st' : Store} (hc : cur o b g (w g) = c) (h : c.insert r s = .ok st') :
    stepObs o (g, r, s) = .ok (put o b g st') := by
  subst hb hc
  obtain ⟨hw, hok⟩ := hop
  simp only at hw hok
  unfold cur at h
  simp only [stepObs, hok, not_true_eq_false, if_false, hw, h]
  rfl

theorem stepObs_inv {w : String → Nat} (o : Obs) (op : Op) (hI : OInv w o) (hop : OpOk w op) :
    ∃ o', stepObs o op = .ok o' ∧ OInv w o' := by
  obtain ⟨st', e, ha⟩ := insert_at (cur_anchored hI (op.2.1 / o.rpb) op.1) hop.1 (in_batch o.rpb op.2.1 hI.pos)
  exact ⟨_, stepObs_of_insert o op.1 op.2.1 op.2.2 hop rfl rfl e, put_inv hI ha⟩

theorem stepObs_comm {w : String → Nat} (o : Obs) (x y : Op) (hI : OInv w o) (hx : OpOk w x) (hy : OpOk w y)
    (hne : ¬ (x.1 = y.1 ∧ x.2.1 = y.2.1)) :
    ∃ ox oy oxy, stepObs o x = .ok ox ∧ stepObs ox y = .ok oxy ∧ stepObs o y = .ok oy ∧ stepObs oy x = .ok oxy := by
  obtain ⟨gx, rx, sx⟩ := x
  obtain ⟨gy, ry, sy⟩ := y
  have ix := in_batch o.rpb rx hI.pos
  have iy := in_batch o.rpb ry hI.pos
  by_cases hk : rx / o.rpb = ry / o.rpb ∧ gx = gy
  · -- same batch, same gate, different records: the two inserts commute
    obtain ⟨hb, rfl⟩ := hk
    rw [← hb] at iy
    obtain ⟨a, b, ab, c1, c2, c3, c4⟩ := insert_comm_at (cur_anchored hI (rx / o.rpb) gx) hx.1 hy.1 hx.2 ix iy
      (fun h => hne ⟨rfl, h⟩)
    refine ⟨_, _, put o (rx / o.rpb) gx ab, stepObs_of_insert o gx rx sx hx rfl rfl c1, ?_,
      stepObs_of_insert o gx ry sy hy hb.symm rfl c3, ?_⟩
    · rw [← put_put_same o _ gx a ab]
      exact stepObs_of_insert (put o (rx / o.rpb) gx a) gx ry sy hy hb.symm (cur_put_same ..) c2
    · rw [← put_put_same o _ gx b ab]
      exact stepObs_of_insert (put o (rx / o.rpb) gx b) gx rx sx hx rfl (cur_put_same ..) c4
  · -- different batch or gate: each push works on its own store
    obtain ⟨a, ea, _⟩ := insert_at (cur_anchored hI (rx / o.rpb) gx) hx.1 ix
    obtain ⟨b, eb, _⟩ := insert_at (cur_anchored hI (ry / o.rpb) gy) hy.1 iy
    refine ⟨_, _, put (put o (rx / o.rpb) gx a) (ry / o.rpb) gy b, stepObs_of_insert o gx rx sx hx rfl rfl ea,
      stepObs_of_insert (put o (rx / o.rpb) gx a) gy ry sy hy rfl
        (cur_put_other _ _ _ _ _ _ _ (fun h => hk ⟨h.1.symm, h.2.symm⟩)) eb,
      stepObs_of_insert o gy ry sy hy rfl rfl eb, ?_⟩
    rw [put_comm o _ gx a _ gy b hk]
    exact stepObs_of_insert (put o (ry / o.rpb) gy b) gx rx sx hx rfl (cur_put_other _ _ _ _ _ _ _ hk) ea

theorem obs_new_inv (w : String → Nat) (rpb : Nat) (hpos : 0 < rpb) (hmax : rpb ≠ usizeMax) :
    OInv w (obs (Tables.new rpb)) := by
  refine ⟨hpos, ?_, ?_⟩
  · intro b
    simp [obs, Tables.new, Tables.get, Tables.fresh, firstRecordOf_explicit rpb b hmax]
  · intro b g st h
    simp [obs, Tables.new, Tables.store, Tables.get, Tables.fresh] at h

theorem map_ok {α β : Type} {f : α → β} {x : Outcome α} {b : β} (h : Outcome.map f x = .ok b) :
    ∃ a, x = .ok a ∧ f a = b := by
  cases x with
  | ok a => simp only [Outcome.map, Outcome.ok.injEq] at h; exact ⟨a, rfl, h⟩
  | panic m => simp [Outcome.map] at h

/-- A validator for batches of `rpb` records (`rpb ≠ usize::MAX`, i.e. every
`validate_record`-style validator), any list of pushes `(gate, record, segment)` — any number of batches and
gates, one push per gate and record, segments of a gate of one supported width — and any permutation of it:
both runs finish without an assertion failure and for every batch and gate the stored tables are equal. -/
theorem push_order_irrelevant (rpb : Nat) (hpos : 0 < rpb) (hmax : rpb ≠ usizeMax) (w : String → Nat)
    (ops₁ ops₂ : List Op) (hp : ops₁.Perm ops₂)
    (hw : ∀ op ∈ ops₁, op.2.2.width = w op.1 ∧ segmentOk op.2.2 = true)
    (hone : ops₁.Pairwise fun x y => ¬ (x.1 = y.1 ∧ x.2.1 = y.2.1)) :
    ∃ t₁ t₂, (Tables.new rpb).pushAll ops₁ = .ok t₁ ∧ (Tables.new rpb).pushAll ops₂ = .ok t₂ ∧
      ∀ b g, t₁.store b g = t₂.store b g := by
  obtain ⟨o, e1, e2⟩ := foldO_perm_ok stepObs (OInv w) (OpOk w) (fun x y => ¬ (x.1 = y.1 ∧ x.2.1 = y.2.1))
    (fun {a b} h hab => h ⟨hab.1.symm, hab.2.symm⟩) stepObs_inv stepObs_comm hp hw hone _
    (obs_new_inv w rpb hpos hmax)
  rw [← obs_pushAll] at e1 e2
  obtain ⟨t₁, h1, o1⟩ := map_ok e1
  obtain ⟨t₂, h2, o2⟩ := map_ok e2
  exact ⟨t₁, t₂, h1, h2, fun b g => congrFun (congrFun (congrArg Obs.store (o1.trans o2.symm)) b) g⟩

/-- the hypotheses of `push_order_irrelevant` are satisfiable in a non-trivial way: two batches of two
records, two gates of different widths, pushed backwards. -/
example :
    let s3 : Segment := { width := 3, xl := 5, xr := 1, yl := 7, yr := 0, pl := 2, pr := 3, zr := 6 }
    let s256 : Segment := { width := 256, xl := 2 ^ 255 + 1, xr := 1, yl := 7, yr := 0, pl := 2, pr := 3, zr := 6 }
    let ops : List Op := [("a", 3, s3), ("b", 3, s256), ("a", 2, s3), ("a", 1, s3), ("b", 0, s256), ("a", 0, s3)]
    (∀ op ∈ ops, op.2.2.width = (fun g => if g = "a" then 3 else 256) op.1 ∧ segmentOk op.2.2 = true) ∧
    ops.Pairwise (fun x y => ¬ (x.1 = y.1 ∧ x.2.1 = y.2.1)) ∧ (2 : Nat) ≠ usizeMax := by
  refine ⟨by decide, by decide, by decide⟩

def seg1 (v : Nat) : Segment := { width := 1, xl := v, xr := 0, yl := 0, yr := 0, pl := 0, pr := 0, zr := v }

/-- Batches of two records, one gate, one-bit segments.
(1) "No explicit anchor" (`Batch::new(None, 2)`: each gate anchors at the first record pushed): pushing record 1
and then record 0 panics (`assert!(record_id >= first_record)`), pushing 0 and then 1 does not.
(2) The same for the rule "explicit anchor only for `batch_index > 0`" — in the first batch; its later batches
and (3) the rule the code uses accept both orders. -/
theorem anchor_on_first_pushed_counterexample :
    let back : List Op := [("g", 1, seg1 1), ("g", 0, seg1 0)]
    let fwd : List Op := [("g", 0, seg1 0), ("g", 1, seg1 1)]
    let later : List Op := [("g", 3, seg1 1), ("g", 2, seg1 0)]
    let lazy (rpb : Nat) : Nat → Option Nat := fun b => if b > 0 then some (b * rpb) else none
    Outcome.isPanic ((Tables.newWith 2 (fun _ => none)).pushAll back) = true ∧
    Outcome.isPanic ((Tables.newWith 2 (fun _ => none)).pushAll fwd) = false ∧
    Outcome.isPanic ((Tables.newWith 2 (lazy 2)).pushAll back) = true ∧
    Outcome.isPanic ((Tables.newWith 2 (lazy 2)).pushAll fwd) = false ∧
    Outcome.isPanic ((Tables.newWith 2 (lazy 2)).pushAll later) = false ∧
    Outcome.isPanic ((Tables.new 2).pushAll back) = false ∧
    Outcome.isPanic ((Tables.new 2).pushAll later) = false := by
  decide +kernel

/-- the pushes of one gate into one store. -/
def insertAll (st : Store) (l : List (Nat × Segment)) : Outcome Store :=
  foldO (fun st x => st.insert x.1 x.2) st l

/-- A store without explicit anchor (single-shot validators: the constructor
closure passes `None` for `usize::MAX`): if the lowest record `r₀` of the gate is pushed first, the remaining
pushes (distinct records of `(r₀, r₀ + max)`) may come in any order — no assertion fires and the table is the
same. (If a record below the first pushed one follows, `insert_segment` panics:
`anchor_on_first_pushed_counterexample`.) -/
theorem single_shot_lowest_first (max w r₀ : Nat) (s₀ : Segment) (l₁ l₂ : List (Nat × Segment))
    (hp : l₁.Perm l₂) (hmax : 0 < max) (hs₀ : s₀.width = w)
    (hl : ∀ x ∈ l₁, x.2.width = w ∧ segmentOk x.2 = true ∧ r₀ ≤ x.1 ∧ x.1 < max + r₀)
    (hone : l₁.Pairwise fun x y => x.1 ≠ y.1) :
    ∃ st, insertAll { first := none, max := max, width := w, vec := [] } ((r₀, s₀) :: l₁) = .ok st ∧
          insertAll { first := none, max := max, width := w, vec := [] } ((r₀, s₀) :: l₂) = .ok st := by
  obtain ⟨st₀, h0, hI0⟩ : ∃ st₀, (⟨none, max, w, []⟩ : Store).insert r₀ s₀ = .ok st₀ ∧ StoreAt r₀ max w st₀ := by
    refine ⟨⟨some r₀, max, w, if s₀.width < 256 then insertSmall [] 0 s₀ else insertLarge [] 0 s₀⟩, ?_, rfl, rfl, rfl⟩
    unfold Store.insert
    have a : ¬ s₀.width ≠ w := by simp [hs₀]
    have c : ¬ ¬ r₀ < max + r₀ := by omega
    simp only [a, c, Option.getD_none, Nat.lt_irrefl, if_false, Nat.sub_self]
  obtain ⟨st, e1, e2⟩ := foldO_perm_ok (fun (st : Store) (x : Nat × Segment) => st.insert x.1 x.2) (StoreAt r₀ max w)
    (fun x => x.2.width = w ∧ segmentOk x.2 = true ∧ r₀ ≤ x.1 ∧ x.1 < max + r₀) (fun x y => x.1 ≠ y.1)
    (fun {a b} h => h.symm) (fun st x hI hx => insert_at hI hx.1 hx.2.2)
    (fun st x y hI hx hy hne => insert_comm_at hI hx.1 hy.1 hx.2.1 hx.2.2 hy.2.2 hne) hp hl hone st₀ hI0
  exact ⟨st, by simp only [insertAll, foldO, h0]; exact e1, by simp only [insertAll, foldO, h0]; exact e2⟩

example :
    let l : List (Nat × Segment) := [(6, seg1 1), (5, seg1 0), (9, seg1 1)]
    (∀ x ∈ l, x.2.width = 1 ∧ segmentOk x.2 = true ∧ 4 ≤ x.1 ∧ x.1 < 18446744073709551615 + 4) ∧
    l.Pairwise (fun x y => x.1 ≠ y.1) ∧ (seg1 1).width = 1 := by
  refine ⟨by decide, by decide, rfl⟩

end IpaVerif.C03Order
