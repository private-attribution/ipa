import IpaVerif.Model.Channel
import IpaVerif.Generated.Gateway
import IpaVerif.Proofs.OrderingSender
/-!
# C13 — each record sent on a channel reaches exactly the matching receive, in any order

The channel is the composition of C14's `OrderingSender` (proved to refine the ordered-queue
specification `Spec`) and `UnorderedReceiver` (proved to hand out `[i·sz, (i+1)·sz)`), configured
by `SendChannelConfig::new_with` and rendezvoused through `StreamCollection`.
-/
namespace IpaVerif.C13
open IpaVerif.Channel

/-! ## `config_aligned` -/

theorem prevPow2_is_pow2 (t : Nat) : ∃ k, prevPow2 t = 2 ^ k := ⟨_, rfl⟩

theorem min_pow_mul (a k rec : Nat) : ∃ m, m ≤ a ∧ min (2 ^ a * rec) (2 ^ k * rec) = 2 ^ m * rec := by
  rcases Nat.le_total a k with h | h
  · refine ⟨a, Nat.le_refl _, Nat.min_eq_left ?_⟩
    exact Nat.mul_le_mul_right _ (Nat.pow_le_pow_right (by decide) h)
  · refine ⟨k, h, Nat.min_eq_right ?_⟩
    exact Nat.mul_le_mul_right _ (Nat.pow_le_pow_right (by decide) h)

/-- **The asserts of `SendChannelConfig::new_with` can never fire.**  For every `active = 2^a`
(`NonZeroU32PowerOfTwo`), every configured `read_size`, every `record_size ≥ 1` and both kinds of
totals the constructor returns a configuration with `total_capacity = active · record_size`,
`read_size ∣ total_capacity` (the ipa#1300 condition), `record_size ∣ read_size`,
`0 < read_size ≤ total_capacity`, and the read size is a power-of-two multiple of the record
size.  (`usize` overflow of `active · record_size` is not modelled.) -/
theorem config_aligned (a readCfg rec : Nat) (indet : Bool) (hrec : 1 ≤ rec) :
    ∃ c, newWith (2 ^ a) readCfg rec indet = .ok c ∧
      c.totalCapacity = 2 ^ a * rec ∧ c.recordSize = rec ∧
      c.readSize ∣ c.totalCapacity ∧ c.recordSize ∣ c.readSize ∧
      0 < c.readSize ∧ c.readSize ≤ c.totalCapacity ∧ ∃ m, m ≤ a ∧ c.readSize = 2 ^ m * rec := by
  have hpa : 0 < 2 ^ a := Nat.two_pow_pos a
  have htot : 0 < 2 ^ a * rec := Nat.mul_pos hpa hrec
  -- the read size is 2^m * rec with m ≤ a
  have hform : ∃ m, m ≤ a ∧
      (if indet = true then rec else min (2 ^ a * rec) (prevPow2 (readCfg / rec) * rec)) = 2 ^ m * rec := by
    cases indet
    · simp only [Bool.false_eq_true, if_false]
      exact min_pow_mul a _ rec
    · exact ⟨0, Nat.zero_le _, by simp⟩
  obtain ⟨m, hm, hread⟩ := hform
  have hdvd : 2 ^ m * rec ∣ 2 ^ a * rec := Nat.mul_dvd_mul_right (Nat.pow_dvd_pow 2 hm) rec
  have hpos : 0 < 2 ^ m * rec := Nat.mul_pos (Nat.two_pow_pos m) hrec
  refine ⟨⟨2 ^ a * rec, rec, 2 ^ m * rec⟩, ?_, rfl, rfl, hdvd, Nat.dvd_mul_left rec (2 ^ m), hpos,
    Nat.le_of_dvd htot hdvd, m, hm, rfl⟩
  unfold newWith
  rw [if_neg (by omega)]
  simp only [hread]
  rw [if_neg (by omega), if_neg (by rw [Nat.mul_comm]; exact fun h => h (Nat.le_refl _)),
    if_neg (by rw [Nat.mod_eq_zero_of_dvd hdvd]; exact fun h => h rfl)]

/-- The hypotheses are satisfiable: 14-byte records, read size 4096, active work 2^15. -/
example : ∃ c, newWith (2 ^ 15) 4096 14 false = .ok c ∧ c.readSize ∣ c.totalCapacity := by
  obtain ⟨c, h, _, _, h2, _⟩ := config_aligned 15 4096 14 false (by decide)
  exact ⟨c, h, h2⟩

/-- The default gateway configuration regenerated from the source (`active = 32768 = 2^15`,
`read_size = 2048`) is aligned for every record size. -/
theorem default_config_aligned (rec : Nat) (indet : Bool) (hrec : 1 ≤ rec) :
    ∃ c, newWith Generated.Gateway.defaultActive Generated.Gateway.defaultReadSize rec indet = .ok c ∧
      c.readSize ∣ c.totalCapacity ∧ c.recordSize ∣ c.readSize ∧ c.readSize ≤ c.totalCapacity := by
  have ha : Generated.Gateway.defaultActive = 2 ^ 15 := by decide
  obtain ⟨c, h, _, _, h2, h3, _, h5, _⟩ := config_aligned 15 Generated.Gateway.defaultReadSize rec indet hrec
  exact ⟨c, by rw [ha]; exact h, h2, h3, h5⟩

/-- **The window a channel is opened with is the window its buffer holds.**  For every gateway
configuration, every requested window `2^a` (`NonZeroU32PowerOfTwo`; no upper bound — DZKP contexts
request `records_per_batch`, far above the gateway default), every record size `≥ 1` and both kinds
of totals, the configuration `get_mpc_sender` derives through `set_active_work` is returned (no
assert fires), has `total_capacity ≥ 2^a · record_size`, so any `k ≤ 2^a` outstanding records fit
into the buffer without waiting for the reader, and is aligned as in `config_aligned`. -/
theorem window_honoured (cfg : GwCfg) (a rec : Nat) (indet : Bool) (hrec : 1 ≤ rec) :
    ∃ c, mpcSendCfg cfg (2 ^ a) rec indet = .ok c ∧
      2 ^ a * rec ≤ c.totalCapacity ∧ (∀ k, k ≤ 2 ^ a → k * rec ≤ c.totalCapacity) ∧
      c.recordSize = rec ∧ c.readSize ∣ c.totalCapacity ∧ c.recordSize ∣ c.readSize ∧
      0 < c.readSize ∧ c.readSize ≤ c.totalCapacity := by
  obtain ⟨c, h, h1, h0, h2, h3, h4, h5, _⟩ := config_aligned a cfg.readSize rec indet hrec
  refine ⟨c, h, by omega, ?_, h0, h2, h3, h4, h5⟩
  intro k hk
  rw [h1]
  exact Nat.mul_le_mul_right rec hk

/-- instance: the window 2^16 above the gateway default 2^15, 1-byte records -/
example : ∃ c, mpcSendCfg ⟨32768, 2048⟩ (2 ^ 16) 1 false = .ok c ∧ 65536 ≤ c.totalCapacity := by
  obtain ⟨c, h, h1, _⟩ := window_honoured ⟨32768, 2048⟩ 16 1 false (by decide)
  exact ⟨c, h, by simpa using h1⟩

/-- `set_active_work` changes nothing but the window. -/
theorem set_active_work_spec (cfg : GwCfg) (w : Nat) :
    (setActiveWork cfg w).active = w ∧ (setActiveWork cfg w).readSize = cfg.readSize := ⟨rfl, rfl⟩

/-- Why there must be no cap in `set_active_work`: with the override capped by the default window
(`min(default.active, active_work)`), a channel opened with the window 65536 and 1-byte records gets
a 32768-byte buffer — the 32769-th outstanding record has to wait for the reader. -/
theorem capped_window_counterexample :
    ∃ c, newWith (min 32768 65536) 2048 1 false = .ok c ∧ ¬ (65536 * 1 ≤ c.totalCapacity) := by
  obtain ⟨c, h, h1, _⟩ := config_aligned 15 2048 1 false (by decide)
  have e : min 32768 65536 = 2 ^ 15 := by decide
  exact ⟨c, by rw [e]; exact h, by omega⟩

theorem lt_two_pow_bitLen (n : Nat) : n < 2 ^ bitLen n := by
  unfold bitLen
  split
  · subst_vars; decide
  · exact Nat.lt_log2_self

theorem nextPow2_spec (n : Nat) : (∃ k, nextPow2 n = 2 ^ k) ∧ n ≤ nextPow2 n := by
  unfold nextPow2
  split
  · exact ⟨⟨0, rfl⟩, by omega⟩
  · refine ⟨⟨_, rfl⟩, ?_⟩
    have := lt_two_pow_bitLen (n - 1)
    omega

/-- `set_active_work_from_query_config`: the window is a power of two `≥ 2`, at least the query size
capped by the default window, and the read size is untouched. -/
theorem query_window (d : Nat) (cfg : GwCfg) (size : Nat) :
    let c := setActiveWorkFromQuery d cfg size
    (∃ k, 1 ≤ k ∧ c.active = 2 ^ k) ∧ min d size ≤ c.active ∧ c.readSize = cfg.readSize := by
  obtain ⟨⟨k, hk⟩, hle⟩ := nextPow2_spec (max 2 (min d size))
  refine ⟨⟨k, ?_, hk⟩, ?_, rfl⟩
  · rcases k with _ | k
    · simp only [Nat.pow_zero] at hk
      omega
    · omega
  · show min d size ≤ nextPow2 (max 2 (min d size))
    omega

theorem get_set_same (c : Coll) (k : Key) (s : StreamState) : (c.set k s).get k = some s := by
  simp [Coll.get, Coll.set]

theorem get_set_other (c : Coll) {k k' : Key} (s : StreamState) (h : k' ≠ k) :
    (c.set k s).get k' = c.get k' := by
  have hb : ((k, s).1 == k') = false := by simpa using fun h' => h h'.symm
  simp only [Coll.get, Coll.set, List.find?_cons, hb]
  congr 1
  induction c with
  | nil => rfl
  | cons x xs ih =>
    simp only [List.filter_cons]
    by_cases hx : x.1 = k
    · have : (x.1 != k) = false := by simp [hx]
      have hx' : (x.1 == k') = false := by rw [hx]; simpa using fun h' => h h'.symm
      simp only [this, List.find?_cons, hx']
      exact ih
    · have : (x.1 != k) = true := by simpa using hx
      simp only [this, if_true, List.find?_cons]
      cases x.1 == k' <;> simp [ih]

/-- **Channels do not leak into each other** (`StreamCollection`, keyed by `(query, peer, gate)`):
1. an operation on one key never changes the state seen under a different key;
2. `add_waker(k)` returns a stream iff that very stream was added under the identical key `k` and
   not yet taken, and taking it leaves a tombstone;
3. adding a second stream under a key (before `clear`) and requesting a stream that was already
   taken are panics; the panic leaves the collection unchanged. -/
theorem channel_isolation (c : Coll) (k : Key) :
    (∀ k' s, k' ≠ k → (collStep c (.addStream k' s)).1.get k = c.get k) ∧
    (∀ k' w, k' ≠ k → (collStep c (.addWaker k' w)).1.get k = c.get k) ∧
    (∀ w s, (collStep c (.addWaker k w)).2 = .got (some s) ↔ c.get k = some (.ready s)) ∧
    (∀ w s, c.get k = some (.ready s) → (collStep c (.addWaker k w)).1.get k = some .completed) ∧
    (∀ s s', c.get k = some (.ready s) → collStep c (.addStream k s') = (c, .panic)) ∧
    (∀ s', c.get k = some .completed → collStep c (.addStream k s') = (c, .panic)) ∧
    (∀ w, c.get k = some .completed → collStep c (.addWaker k w) = (c, .panic)) := by
  refine ⟨?_, ?_, ?_, ?_, ?_, ?_, ?_⟩
  · intro k' s hne
    simp only [collStep]
    split <;> first | exact get_set_other _ _ (Ne.symm hne) | rfl
  · intro k' w hne
    simp only [collStep]
    split <;> first | exact get_set_other _ _ (Ne.symm hne) | rfl
  · intro w s
    simp only [collStep]
    split <;> simp_all
  · intro w s h
    simp only [collStep, h]
    exact get_set_same _ _ _
  · intro s s' h; simp only [collStep, h]
  · intro s' h; simp only [collStep, h]
  · intro w h; simp only [collStep, h]

/-- Sending a record id at or beyond the declared count is refused (`TooManyRecords`) before anything
reaches the buffer, and only then. -/
theorem send_beyond_total_err (total : Total) (i : Nat) :
    gatewaySend total i = .tooManyRecords ↔ ∃ n, total = .specified n ∧ n ≤ i := by
  cases total with
  | unspecified => simp [gatewaySend]
  | indeterminate => simp [gatewaySend]
  | specified n =>
    simp only [gatewaySend, Total.specified.injEq, exists_eq_left']
    constructor
    · intro h; split at h
      · assumption
      · split at h <;> cases h
    · intro h; rw [if_pos h]

open IpaVerif.OrderingSender in
/-- **A channel closes exactly when its declared record count has been sent.**  `GatewaySender::send`
issues `close(n)` after, and only after, the send of record `n − 1`; and in the ordered queue a
`close(n)` is accepted exactly when `next = n`, i.e. (by `C14.sender_stream_is_concat`:
acceptance order = index order) when records `0 … n−1` have all been written — earlier polls stay
pending and leave the channel open; once accepted the channel is closed. -/
theorem closes_exactly_at_total (n : Nat) (hn : 0 < n) :
    (∀ i, (∃ c, gatewaySend (.specified n) i = .sentAndClosed c) ↔ i + 1 = n) ∧
    (∀ i c, gatewaySend (.specified n) i = .sentAndClosed c → c = n) ∧
    (∀ (p p' : Spec) t r w, p.step (.pollClose t n) = some (p', r, w) →
      (r = .ready ↔ p.next = n) ∧ (r = .ready → p'.closed = true ∧ p'.next = n + 1) ∧
      (r ≠ .ready → p'.closed = p.closed ∧ p'.next = p.next ∧ p'.q = p.q)) := by
  refine ⟨?_, ?_, ?_⟩
  · intro i
    simp only [gatewaySend]
    constructor
    · rintro ⟨c, h⟩
      split at h
      · cases h
      · split at h
        · omega
        · cases h
    · intro h
      rw [if_neg (by omega), if_pos (by omega)]
      exact ⟨_, rfl⟩
  · intro i c h
    simp only [gatewaySend] at h
    split at h
    · cases h
    · split at h
      · cases h; omega
      · cases h
  · intro p p' t r w h
    cases Spec.step_some h with
    | close t hc => exact ⟨⟨fun _ => rfl, fun _ => rfl⟩, fun _ => ⟨rfl, rfl⟩, fun h => absurd rfl h⟩
    | closePark t hlt =>
      exact ⟨⟨nofun, fun h => absurd h (Nat.ne_of_lt hlt)⟩, nofun, fun _ => ⟨rfl, rfl, rfl⟩⟩

theorem slice_flatten (sz : Nat) : ∀ (msgs : List (List Nat)), (∀ m ∈ msgs, m.length = sz) →
    ∀ i (hi : i < msgs.length), ((msgs.flatten).drop (i * sz)).take sz = msgs[i] := by
  intro msgs
  induction msgs with
  | nil => intro _ i hi; cases hi
  | cons m rest ih =>
    intro hsz i hi
    have hm : m.length = sz := hsz m (by simp)
    cases i with
    | zero =>
      simp only [Nat.zero_mul, List.drop_zero, List.flatten_cons, List.getElem_cons_zero]
      rw [← hm, List.take_left']; rfl
    | succ j =>
      simp only [List.flatten_cons, List.getElem_cons_succ]
      have : (j + 1) * sz = m.length + j * sz := by rw [Nat.succ_mul, hm, Nat.add_comm]
      rw [this, ← List.drop_drop, List.drop_left']
      · exact ih (fun x hx => hsz x (List.mem_cons_of_mem _ hx)) j (by simpa using hi)
      · rfl

theorem length_flatten (sz : Nat) : ∀ (msgs : List (List Nat)), (∀ m ∈ msgs, m.length = sz) →
    msgs.flatten.length = msgs.length * sz
  | [], _ => by simp
  | m :: r, hsz => by
    simp only [List.flatten_cons, List.length_append, List.length_cons]
    rw [length_flatten sz r (fun x hx => hsz x (List.mem_cons_of_mem _ hx)), hsz m (by simp),
      Nat.succ_mul, Nat.add_comm]

/-- **`receive(i)` returns the message passed to `send(i)`.**  Composition step of the channel:
let `msgs` be the messages accepted by the sending buffer in index order, all of the channel's
record size (C14 `sender_stream_is_concat`: emitted ‖ buffered = msg 0 ‖ msg 1 ‖ …, whatever the
order in which `send(i)` futures are polled and whatever the read size); let `fed` be what the
transport has delivered so far — any prefix of the emitted bytes, cut into chunks in any way
(hypothesis `h2`: the transport is an ordered byte pipe); then the bytes
`fed[i·sz, (i+1)·sz)` — which is what `recv(i)` resolves to for every chunking and every order or
timing of requests (C14 `receiver_indexing`) — are exactly `msgs[i]`. -/
theorem recv_gets_sent (sz : Nat) (msgs : List (List Nat)) (hsz : ∀ m ∈ msgs, m.length = sz)
    (emitted buffered fed rest : List Nat) (h1 : emitted ++ buffered = msgs.flatten)
    (h2 : fed ++ rest = emitted) (i : Nat) (hi : (i + 1) * sz ≤ fed.length) (hpos : 0 < sz) :
    ∃ h : i < msgs.length, (fed.drop (i * sz)).take sz = msgs[i] := by
  have hlen := length_flatten sz msgs hsz
  have hall : fed ++ (rest ++ buffered) = msgs.flatten := by rw [← List.append_assoc, h2, h1]
  have hle : fed.length ≤ msgs.length * sz := by
    rw [← hlen, ← hall]; simp
  have hi' : i < msgs.length := by
    have : (i + 1) * sz ≤ msgs.length * sz := Nat.le_trans hi hle
    exact Nat.lt_of_succ_le (Nat.le_of_mul_le_mul_right this hpos)
  refine ⟨hi', ?_⟩
  rw [← slice_flatten sz msgs hsz i hi', ← hall]
  have h3 : i * sz ≤ fed.length := by rw [Nat.succ_mul] at hi; omega
  rw [List.drop_append_of_le_length h3, List.take_append_of_le_length]
  rw [List.length_drop]; rw [Nat.succ_mul] at hi; omega

open IpaVerif.OrderingSender IpaVerif.CircularBuf in
/-- **No deadlock within the window** (sender side; the receive side is `C14.receiver_wakeups`).  In every state of a sending
channel reachable by any poll schedule, with the configuration produced by `new_with`
(`read_size ≤ total_capacity`, by `config_aligned`): if the writer whose turn it is finds the
buffer full (`can_write = false` on an open channel) then the stream side can read
(`can_read = true`).  Together with `C14.sender_refines_spec` — that read wakes the blocked writer,
an accepted write wakes the writer of the next index and the stream when `read_size` bytes are
there, the close wakes the stream — every non-final state has an enabled poll whose task has
been woken, as long as the consumer polls the stream and woken tasks are re-polled (fairness is a
hypothesis of this reading, not a Lean statement); on the receive side `C14.receiver_wakeups`
gives the same for requests up to and beyond the capacity. -/
theorem no_deadlock_in_window {cap ws rs : Nat} {s0 s : State}
    (hnew : State.new cap ws rs = .ok s0) (hrs : rs ≤ cap)
    (ops : List OrderingSender.Op) (h : OrderingSender.exec s0 ops = .ok s)
    (hopen : s.buf.closed = false) (hfull : s.buf.canWrite = false) : s.buf.canRead = true := by
  obtain ⟨p', hsr, hc, _, hr⟩ := (SR_init hnew).exec ops h
  exact hsr.buf.full_can_read (by rw [hc, hr]; exact hrs) hopen hfull

end IpaVerif.C13
