import Mathlib.Tactic.Ring
import Mathlib.Tactic.LinearCombination
import IpaVerif.Model.DzkpBatch
/-!
# C03 — polynomial side of the multiplication proofs (any field in which 2, 3, 5 are invertible)

`L = 4` (extracted recursion factor), proof length `P = 2L − 1 = 7`.
-/
namespace IpaVerif.C03Algebra
open IpaVerif.DzkpBatch (V4)

variable {K : Type} [Field K]

/-- Lagrange interpolation through (0,y0),(1,y1),(2,y2),(3,y3), evaluated at x. -/
def interp4 (y0 y1 y2 y3 x : K) : K :=
  y0 * ((x - 1) * (x - 2) * (x - 3)) / (-6) + y1 * (x * (x - 2) * (x - 3)) / 2
  + y2 * (x * (x - 1) * (x - 3)) / (-2) + y3 * (x * (x - 1) * (x - 2)) / 6

/-! Every Lagrange denominator for the nodes `0..3` divides 6, for the nodes `0..6` it divides 720 = 2⁴·3²·5. -/

theorem ne_zero_6 (h2 : (2 : K) ≠ 0) (h3 : (3 : K) ≠ 0) : (6 : K) ≠ 0 := by
  have : (6 : K) = 2 * 3 := by norm_num
  rw [this]; exact mul_ne_zero h2 h3

theorem ne_zero_720 (h2 : (2 : K) ≠ 0) (h3 : (3 : K) ≠ 0) (h5 : (5 : K) ≠ 0) : (720 : K) ≠ 0 := by
  have : (720 : K) = 2 ^ 4 * 3 ^ 2 * 5 := by norm_num
  rw [this]
  exact mul_ne_zero (mul_ne_zero (pow_ne_zero _ h2) (pow_ne_zero _ h3)) h5

theorem mul_div_of_eq {n : K} (hn : n ≠ 0) (k : K) {d : K} (h : k * d = n) (t : K) : n * (t / d) = k * t := by
  subst h
  rw [mul_assoc, mul_div_cancel₀ t (right_ne_zero_of_mul hn)]

/-- `interp4` over the common denominator: the weights are the binomial coefficients `±C(3, i)`. -/
theorem mul_interp4 (h6 : (6 : K) ≠ 0) (y0 y1 y2 y3 x : K) :
    6 * interp4 y0 y1 y2 y3 x =
      -1 * (y0 * ((x - 1) * (x - 2) * (x - 3))) + 3 * (y1 * (x * (x - 2) * (x - 3)))
      + -3 * (y2 * (x * (x - 1) * (x - 3))) + 1 * (y3 * (x * (x - 1) * (x - 2))) := by
  simp only [interp4, mul_add]
  rw [mul_div_of_eq h6 (-1) (by norm_num), mul_div_of_eq h6 3 (by norm_num), mul_div_of_eq h6 (-3) (by norm_num),
    mul_div_of_eq h6 1 (by norm_num)]

/-- `LagrangeTable::eval` semantics: the degree-3 interpolant through the values at 0..3 reproduces every cubic, at
every point (so also at 4, 5, 6 and at the challenge `r`). -/
theorem lagrange_eval (h2 : (2 : K) ≠ 0) (h3 : (3 : K) ≠ 0) (c0 c1 c2 c3 x : K) :
    interp4 c0 (c0 + c1 + c2 + c3) (c0 + 2 * c1 + 4 * c2 + 8 * c3) (c0 + 3 * c1 + 9 * c2 + 27 * c3) x
      = c0 + c1 * x + c2 * x ^ 2 + c3 * x ^ 3 := by
  have h6 := ne_zero_6 h2 h3
  apply mul_left_cancel₀ h6
  rw [mul_interp4 h6]
  ring

theorem interp4_cubic (h6 : (6 : K) ≠ 0) (u0 u1 u2 u3 : K) :
    ∃ a0 a1 a2 a3, ∀ x, interp4 u0 u1 u2 u3 x = a0 + a1 * x + a2 * x ^ 2 + a3 * x ^ 3 :=
  ⟨6⁻¹ * (6 * u0), 6⁻¹ * (-11 * u0 + 18 * u1 - 9 * u2 + 2 * u3), 6⁻¹ * (6 * u0 - 15 * u1 + 12 * u2 - 3 * u3),
    6⁻¹ * (-u0 + 3 * u1 - 3 * u2 + u3), fun x => by
      rw [← inv_mul_cancel_left₀ h6 (interp4 u0 u1 u2 u3 x), mul_interp4 h6]; ring⟩

/-- Lagrange interpolation through (i, y_i), i = 0..6, evaluated at x. -/
def interp7 (y0 y1 y2 y3 y4 y5 y6 x : K) : K :=
  y0 * ((x - 1) * (x - 2) * (x - 3) * (x - 4) * (x - 5) * (x - 6)) / 720
  + y1 * (x * (x - 2) * (x - 3) * (x - 4) * (x - 5) * (x - 6)) / (-120)
  + y2 * (x * (x - 1) * (x - 3) * (x - 4) * (x - 5) * (x - 6)) / 48
  + y3 * (x * (x - 1) * (x - 2) * (x - 4) * (x - 5) * (x - 6)) / (-36)
  + y4 * (x * (x - 1) * (x - 2) * (x - 3) * (x - 5) * (x - 6)) / 48
  + y5 * (x * (x - 1) * (x - 2) * (x - 3) * (x - 4) * (x - 6)) / (-120)
  + y6 * (x * (x - 1) * (x - 2) * (x - 3) * (x - 4) * (x - 5)) / 720

/-- `interp7` over the common denominator: the weights are `±C(6, i)`. -/
theorem mul_interp7 (h : (720 : K) ≠ 0) (y0 y1 y2 y3 y4 y5 y6 x : K) :
    720 * interp7 y0 y1 y2 y3 y4 y5 y6 x =
      1 * (y0 * ((x - 1) * (x - 2) * (x - 3) * (x - 4) * (x - 5) * (x - 6)))
      + -6 * (y1 * (x * (x - 2) * (x - 3) * (x - 4) * (x - 5) * (x - 6)))
      + 15 * (y2 * (x * (x - 1) * (x - 3) * (x - 4) * (x - 5) * (x - 6)))
      + -20 * (y3 * (x * (x - 1) * (x - 2) * (x - 4) * (x - 5) * (x - 6)))
      + 15 * (y4 * (x * (x - 1) * (x - 2) * (x - 3) * (x - 5) * (x - 6)))
      + -6 * (y5 * (x * (x - 1) * (x - 2) * (x - 3) * (x - 4) * (x - 6)))
      + 1 * (y6 * (x * (x - 1) * (x - 2) * (x - 3) * (x - 4) * (x - 5))) := by
  simp only [interp7, mul_add]
  rw [mul_div_of_eq h 1 (by norm_num), mul_div_of_eq h (-6) (by norm_num), mul_div_of_eq h 15 (by norm_num),
    mul_div_of_eq h (-20) (by norm_num), mul_div_of_eq h 15 (by norm_num), mul_div_of_eq h (-6) (by norm_num),
    mul_div_of_eq h 1 (by norm_num)]

def poly6 (c0 c1 c2 c3 c4 c5 c6 t : K) : K := c0 + c1 * t + c2 * t ^ 2 + c3 * t ^ 3 + c4 * t ^ 4 + c5 * t ^ 5 + c6 * t ^ 6

/-- the same for the 7-point table used by `interpolate_at_r`. -/
theorem lagrange7 (h2 : (2 : K) ≠ 0) (h3 : (3 : K) ≠ 0) (h5 : (5 : K) ≠ 0) (c0 c1 c2 c3 c4 c5 c6 x : K) :
    let P := poly6 c0 c1 c2 c3 c4 c5 c6
    interp7 (P 0) (P 1) (P 2) (P 3) (P 4) (P 5) (P 6) x = P x := by
  have h720 := ne_zero_720 h2 h3 h5
  intro P
  apply mul_left_cancel₀ h720
  rw [mul_interp7 h720]
  simp only [P, poly6]
  ring

/-- the interpolant takes the value `y_i` at the node `i`: at `x = i` every other term has the factor `i - i`. -/
theorem interp7_nodes (h : (720 : K) ≠ 0) (y0 y1 y2 y3 y4 y5 y6 : K) :
    interp7 y0 y1 y2 y3 y4 y5 y6 0 = y0 ∧ interp7 y0 y1 y2 y3 y4 y5 y6 1 = y1 ∧ interp7 y0 y1 y2 y3 y4 y5 y6 2 = y2 ∧
    interp7 y0 y1 y2 y3 y4 y5 y6 3 = y3 ∧ interp7 y0 y1 y2 y3 y4 y5 y6 4 = y4 ∧ interp7 y0 y1 y2 y3 y4 y5 y6 5 = y5 ∧
    interp7 y0 y1 y2 y3 y4 y5 y6 6 = y6 := by
  refine ⟨?_, ?_, ?_, ?_, ?_, ?_, ?_⟩
  all_goals
    apply mul_left_cancel₀ h
    simp only [mul_interp7 h, sub_self, mul_zero, zero_mul, add_zero, zero_add]
    ring

/-- the chunk polynomial (degree ≤ 3 through the four values) evaluated at `x`. -/
def _root_.IpaVerif.DzkpBatch.V4.at (u : V4 K) (x : K) : K := interp4 u.a u.b u.c u.d x
def _root_.IpaVerif.DzkpBatch.V4.dot (u v : V4 K) : K := u.a * v.a + u.b * v.b + u.c * v.c + u.d * v.d

theorem at_nodes (h6 : (6 : K) ≠ 0) (u : V4 K) : u.at 0 = u.a ∧ u.at 1 = u.b ∧ u.at 2 = u.c ∧ u.at 3 = u.d := by
  refine ⟨?_, ?_, ?_, ?_⟩
  all_goals
    apply mul_left_cancel₀ h6
    rw [V4.at, mul_interp4 h6]
    ring

/-- `G(x) = Σ_k p_k(x)·q_k(x)`: what `compute_proof` accumulates at the point `x` (for `x < 4` directly from the
values, for `x = 4, 5, 6` through `LagrangeTable::eval`, which `lagrange_eval` identifies with `V4.at`). -/
def G (cs : List (V4 K × V4 K)) (x : K) : K := (cs.map fun c => c.1.at x * c.2.at x).sum

theorem G_nil (x : K) : G [] x = 0 := rfl
theorem G_cons (c : V4 K × V4 K) (cs : List (V4 K × V4 K)) (x : K) : G (c :: cs) x = c.1.at x * c.2.at x + G cs x := rfl

theorem G_poly6 (h6 : (6 : K) ≠ 0) (cs : List (V4 K × V4 K)) :
    ∃ c0 c1 c2 c3 c4 c5 c6, ∀ x, G cs x = poly6 c0 c1 c2 c3 c4 c5 c6 x := by
  induction cs with
  | nil => exact ⟨0, 0, 0, 0, 0, 0, 0, fun x => by simp only [G_nil, poly6, zero_mul, add_zero]⟩
  | cons c rest ih =>
    obtain ⟨c0, c1, c2, c3, c4, c5, c6, hr⟩ := ih
    obtain ⟨a0, a1, a2, a3, hp⟩ := interp4_cubic h6 c.1.a c.1.b c.1.c c.1.d
    obtain ⟨b0, b1, b2, b3, hq⟩ := interp4_cubic h6 c.2.a c.2.b c.2.c c.2.d
    refine ⟨a0 * b0 + c0, a0 * b1 + a1 * b0 + c1, a0 * b2 + a1 * b1 + a2 * b0 + c2,
      a0 * b3 + a1 * b2 + a2 * b1 + a3 * b0 + c3, a1 * b3 + a2 * b2 + a3 * b1 + c4, a2 * b3 + a3 * b2 + c5,
      a3 * b3 + c6, fun x => ?_⟩
    rw [G_cons, hr, V4.at, V4.at, hp, hq, poly6, poly6]
    ring

/-- for any list of chunks (any batch size), the first `L` proof entries sum to
`Σ ⟨u, v⟩`, and the proof interpolated at any `r` is `Σ_k u_k(r)·v_k(r)`. -/
theorem proof_step_complete (h2 : (2 : K) ≠ 0) (h3 : (3 : K) ≠ 0) (h5 : (5 : K) ≠ 0)
    (cs : List (V4 K × V4 K)) (r : K) :
    G cs 0 + G cs 1 + G cs 2 + G cs 3 = (cs.map fun c => c.1.dot c.2).sum ∧
    interp7 (G cs 0) (G cs 1) (G cs 2) (G cs 3) (G cs 4) (G cs 5) (G cs 6) r = G cs r := by
  have h6 := ne_zero_6 h2 h3
  constructor
  · induction cs with
    | nil => simp only [G_nil, List.map_nil, List.sum_nil, add_zero]
    | cons c rest ih =>
      simp only [G_cons, at_nodes h6, List.map_cons, List.sum_cons, V4.dot] at ih ⊢
      linear_combination ih
  · obtain ⟨c0, c1, c2, c3, c4, c5, c6, hG⟩ := G_poly6 h6 cs
    simp only [hG]
    exact lagrange7 h2 h3 h5 c0 c1 c2 c3 c4 c5 c6 r

/-- `UVValues::from_iter`: chunks of four `(u, v)` pairs, the last one zero padded. -/
def chunk4p : List (K × K) → List (V4 K × V4 K)
  | [] => []
  | [p0] => [(⟨p0.1, 0, 0, 0⟩, ⟨p0.2, 0, 0, 0⟩)]
  | [p0, p1] => [(⟨p0.1, p1.1, 0, 0⟩, ⟨p0.2, p1.2, 0, 0⟩)]
  | [p0, p1, p2] => [(⟨p0.1, p1.1, p2.1, 0⟩, ⟨p0.2, p1.2, p2.2, 0⟩)]
  | p0 :: p1 :: p2 :: p3 :: rest => (⟨p0.1, p1.1, p2.1, p3.1⟩, ⟨p0.2, p1.2, p2.2, p3.2⟩) :: chunk4p rest

def flatDot (l : List (K × K)) : K := (l.map fun p => p.1 * p.2).sum

theorem chunk_dot (l : List (K × K)) : ((chunk4p l).map fun c => c.1.dot c.2).sum = flatDot l := by
  fun_induction chunk4p l
  case case1 => rfl
  all_goals
    simp only [flatDot, List.map_cons, List.map_nil, List.sum_cons, List.sum_nil, *]
    simp only [V4.dot, mul_zero, add_zero, add_assoc]

/-- the next level's `(u, v)` values: every chunk polynomial evaluated at the challenge (`eval_at_r`). -/
def nextLevel (cs : List (V4 K × V4 K)) (r : K) : List (K × K) := cs.map fun c => (c.1.at r, c.2.at r)

theorem flatDot_next (cs : List (V4 K × V4 K)) (r : K) : flatDot (nextLevel cs r) = G cs r := by
  simp only [flatDot, nextLevel, G, List.map_map, Function.comp_def]

/-- for every batch size, every challenge `r`: the sum share of the next level's proof
equals the current proof interpolated at `r` — the `g` difference of an honest prover is zero. -/
theorem honest_level (h2 : (2 : K) ≠ 0) (h3 : (3 : K) ≠ 0) (h5 : (5 : K) ≠ 0)
    (cs : List (V4 K × V4 K)) (r : K) :
    let cs' := chunk4p (nextLevel cs r)
    G cs' 0 + G cs' 1 + G cs' 2 + G cs' 3 =
      interp7 (G cs 0) (G cs 1) (G cs 2) (G cs 3) (G cs 4) (G cs 5) (G cs 6) r := by
  intro cs'
  rw [(proof_step_complete h2 h3 h5 cs' 0).1, (proof_step_complete h2 h3 h5 cs r).2, chunk_dot, flatDot_next]

/-- `set_masks` on the last (fewer than `L`) values: first value moved to the last slot, masks in slot 0. -/
def maskChunk (c : V4 K × V4 K) (mp mq : K) : V4 K × V4 K :=
  (⟨mp, c.1.b, c.1.c, c.1.a⟩, ⟨mq, c.2.b, c.2.c, c.2.a⟩)

/-- with fewer than `L` remaining values (so the last slot of the chunk is padding),
the final sum share (which skips slot 0) equals `Σ ⟨u, v⟩` of the unmasked values, and the masked proof
interpolated at the last challenge is `p(r)·q(r)` — what the two verifiers multiply together. -/
theorem final_level (h2 : (2 : K) ≠ 0) (h3 : (3 : K) ≠ 0) (h5 : (5 : K) ≠ 0)
    (c : V4 K × V4 K) (hpad : c.1.d = 0 ∧ c.2.d = 0) (mp mq r : K) :
    let m := maskChunk c mp mq
    G [m] 1 + G [m] 2 + G [m] 3 = c.1.dot c.2 ∧
    interp7 (G [m] 0) (G [m] 1) (G [m] 2) (G [m] 3) (G [m] 4) (G [m] 5) (G [m] 6) r = m.1.at r * m.2.at r := by
  intro m
  refine ⟨?_, ?_⟩
  · simp only [G_cons, G_nil, at_nodes (ne_zero_6 h2 h3), V4.dot, m, maskChunk, hpad.1, hpad.2]
    ring
  · rw [(proof_step_complete h2 h3 h5 [m] r).2, G_cons, G_nil, add_zero]

/-- the three per-level equalities that make each `g` difference of an honest prover zero, for
every batch size and all challenge and mask values — first level (`Σ_{i<L} G₁(i) = Σ ⟨u,v⟩`, which the arithmetic
theorem `IpaVerif.C03.sum_iff_all_consistent` equates with `−m/2`), every intermediate level (`honest_level`), and the
masked final level (`final_level`). The composition over the `while !did_set_masks` loop with its PRSS share splitting,
both verifiers' recomputation and the instantiation `K = ZMod (2^61 − 1)` is `IpaVerif.C03Batch.honest_accept` /
`honest_accept_fp61` (Props/C03Batch.lean), which use `proof_step_complete` and `final_level`. -/
theorem honest_levels (h2 : (2 : K) ≠ 0) (h3 : (3 : K) ≠ 0) (h5 : (5 : K) ≠ 0) :
    (∀ cs : List (V4 K × V4 K), G cs 0 + G cs 1 + G cs 2 + G cs 3 = (cs.map fun c => c.1.dot c.2).sum) ∧
    (∀ (cs : List (V4 K × V4 K)) (r : K),
      G (chunk4p (nextLevel cs r)) 0 + G (chunk4p (nextLevel cs r)) 1 + G (chunk4p (nextLevel cs r)) 2 +
        G (chunk4p (nextLevel cs r)) 3 =
        interp7 (G cs 0) (G cs 1) (G cs 2) (G cs 3) (G cs 4) (G cs 5) (G cs 6) r) ∧
    (∀ (c : V4 K × V4 K), c.1.d = 0 ∧ c.2.d = 0 → ∀ mp mq r : K,
      G [maskChunk c mp mq] 1 + G [maskChunk c mp mq] 2 + G [maskChunk c mp mq] 3 = c.1.dot c.2 ∧
      interp7 (G [maskChunk c mp mq] 0) (G [maskChunk c mp mq] 1) (G [maskChunk c mp mq] 2)
        (G [maskChunk c mp mq] 3) (G [maskChunk c mp mq] 4) (G [maskChunk c mp mq] 5) (G [maskChunk c mp mq] 6) r
        = (maskChunk c mp mq).1.at r * (maskChunk c mp mq).2.at r) :=
  ⟨fun cs => (proof_step_complete h2 h3 h5 cs 0).1, fun cs r => honest_level h2 h3 h5 cs r,
   fun c hp mp mq r => final_level h2 h3 h5 c hp mp mq r⟩

/-- non-vacuity: the hypotheses hold in ℚ (and in every field of characteristic > 5). -/
example : ((2 : ℚ) ≠ 0) ∧ ((3 : ℚ) ≠ 0) ∧ ((5 : ℚ) ≠ 0) := by norm_num

end IpaVerif.C03Algebra
