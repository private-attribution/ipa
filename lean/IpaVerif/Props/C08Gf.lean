import IpaVerif.Model.Gf2k
import IpaVerif.Generated.BinaryFields
import IpaVerif.Proofs.C08GfRing
import IpaVerif.Proofs.C08Bytes
/-!
# C08 — binary fields `Gf2 … Gf40Bit` of `ipa-core/src/ff/galois_field.rs` (core Lean part)

* the modelled `Mul` (portable shift-xor `clmul` + reduction loop over `POLYNOMIAL` +
  `try_from(..).unwrap()`) never panics on canonical operands, returns canonical elements, and makes
  the `BITS`-bit values a **commutative ring** under xor — for *every* `BITS ≤ 64` and *every*
  polynomial of degree `BITS` (`gf_mul_total … gf_mul_one`), instantiated at the parameters
  regenerated from the source on every run (`binary_fields_wf`);
* add/sub/neg: characteristic 2 group laws, `-0 = 0`, `a + (-a) = 0`;
* conversions and serialisation are canonical and injective;
* the generator-order certificates emitted by the translator are checked by the kernel
  (`gf*_cert_ok`); `Props/C08GfField` turns them into "every non-zero element is invertible".
-/
namespace IpaVerif.C08
open IpaVerif.Gf2k IpaVerif.Generated IpaVerif.GfRing IpaVerif.Clmul

/-- every extracted binary field has `1 ≤ BITS ≤ 64` and a `POLYNOMIAL` of degree exactly `BITS`. -/
theorem binary_fields_wf (P : Params) (hP : P ∈ binaryFields) : WF P := by
  revert P; decide

/-- The portable `clmul` loop is carry-less (polynomial) multiplication, which is xor-bilinear,
commutative and associative. -/
theorem gf_clmul_spec {k a b : Nat} (hk : k ≤ 64) (ha : a < 2 ^ k) (hb : b < 2 ^ k) :
    clmul k a b = cl a b ∧
    (∀ x y z, cl (x ^^^ y) z = cl x z ^^^ cl y z) ∧ (∀ x y z, cl x (y ^^^ z) = cl x y ^^^ cl x z) ∧
    (∀ x y, cl x y = cl y x) ∧ (∀ x y z, cl (cl x y) z = cl x (cl y z)) :=
  ⟨clmul_eq_cl hk ha hb, cl_xor_left, cl_xor_right, cl_comm, cl_assoc⟩

/-- The reduction loop is xor-linear, maps every multiple `q·P` of `POLYNOMIAL` (of degree `< 2k-1`)
to zero, and returns the canonical representative of its argument modulo `POLYNOMIAL`. -/
theorem gf_reduce_spec {P : Params} (w : WF P) :
    (∀ x, x < 2 ^ (P.bits + (P.bits - 1)) →
        reduceLoop P.bits P.poly (P.bits - 1) x < 2 ^ P.bits ∧ Cong P.poly x (reduceLoop P.bits P.poly (P.bits - 1) x)) ∧
    (∀ x y, x < 2 ^ (P.bits + (P.bits - 1)) → y < 2 ^ (P.bits + (P.bits - 1)) →
        reduceLoop P.bits P.poly (P.bits - 1) (x ^^^ y)
          = reduceLoop P.bits P.poly (P.bits - 1) x ^^^ reduceLoop P.bits P.poly (P.bits - 1) y) ∧
    (∀ q, cl P.poly q < 2 ^ (P.bits + (P.bits - 1)) → reduceLoop P.bits P.poly (P.bits - 1) (cl P.poly q) = 0) := by
  have spec := fun x hx => reduceLoop_spec w.poly_ge w.poly_lt (P.bits - 1) x hx
  refine ⟨spec, ?_, ?_⟩
  · intro x y hx hy
    have hxy := Nat.xor_lt_two_pow hx hy
    apply Cong.eq_of_lt w.poly_ge (spec _ hxy).1 (Nat.xor_lt_two_pow (spec x hx).1 (spec y hy).1)
    exact Cong.trans (Cong.symm (spec _ hxy).2) (Cong.xor (spec x hx).2 (spec y hy).2)
  · intro q hq
    apply Cong.eq_of_lt w.poly_ge (spec _ hq).1 (Nat.two_pow_pos _)
    exact Cong.trans (Cong.symm (spec _ hq).2) ⟨q, by simp⟩

/-- `Mul` never panics on canonical operands; the result is canonical (`< 2^BITS`). -/
theorem gf_mul_total {P : Params} (w : WF P) {a b : Nat} (ha : a < 2 ^ P.bits) (hb : b < 2 ^ P.bits) :
    ∃ r, r < 2 ^ P.bits ∧ mul P a b = some r ∧ r = mulRaw P a b :=
  ⟨mulRaw P a b, (mulRaw_spec w ha hb).1, mul_eq_some w ha hb, rfl⟩

/-- the product is polynomial multiplication modulo `POLYNOMIAL` -/
theorem gf_mul_is_poly_mul_mod {P : Params} (w : WF P) {a b : Nat} (ha : a < 2 ^ P.bits) (hb : b < 2 ^ P.bits) :
    ∃ q, cl a b ^^^ mulRaw P a b = cl P.poly q := (mulRaw_spec w ha hb).2

theorem gf_mul_comm {P : Params} (w : WF P) {a b : Nat} (ha : a < 2 ^ P.bits) (hb : b < 2 ^ P.bits) :
    mul P a b = mul P b a := by
  rw [mul_eq_some w ha hb, mul_eq_some w hb ha, mulRaw_comm w ha hb]

theorem gf_mul_assoc {P : Params} (w : WF P) {a b c : Nat} (ha : a < 2 ^ P.bits) (hb : b < 2 ^ P.bits)
    (hc : c < 2 ^ P.bits) :
    (mul P a b).bind (fun ab => mul P ab c) = (mul P b c).bind (fun bc => mul P a bc) := by
  have hab := (mulRaw_spec w ha hb).1
  have hbc := (mulRaw_spec w hb hc).1
  rw [mul_eq_some w ha hb, mul_eq_some w hb hc]
  simp only [Option.bind_some]
  rw [mul_eq_some w hab hc, mul_eq_some w ha hbc, mulRaw_assoc w ha hb hc]

theorem gf_mul_distrib {P : Params} (w : WF P) {a b c : Nat} (ha : a < 2 ^ P.bits) (hb : b < 2 ^ P.bits)
    (hc : c < 2 ^ P.bits) :
    mul P a (add P b c) = (mul P a b).bind (fun x => (mul P a c).map (fun y => add P x y)) := by
  have hbc : add P b c < 2 ^ P.bits := Nat.xor_lt_two_pow hb hc
  rw [mul_eq_some w ha hb, mul_eq_some w ha hc, mul_eq_some w ha hbc]
  simp only [Option.bind_some, Option.map_some, add]
  rw [mulRaw_xor_right w ha hb hc]

theorem gf_mul_one {P : Params} (w : WF P) {a : Nat} (ha : a < 2 ^ P.bits) :
    mul P a 1 = some a ∧ mul P 1 a = some a ∧ mul P a 0 = some 0 := by
  refine ⟨?_, ?_, ?_⟩
  · rw [mul_eq_some w ha w.one_lt, mulRaw_one w ha]
  · rw [mul_eq_some w w.one_lt ha, mulRaw_comm w w.one_lt ha, mulRaw_one w ha]
  · rw [mul_eq_some w ha (Nat.two_pow_pos _), mulRaw_zero w ha]

/-- Addition: an abelian group of exponent 2 on the canonical values; `-0 = 0`, `a + (-a) = 0`,
`a - b = a + b`. -/
theorem gf_add_group (P : Params) {a b c : Nat} (ha : a < 2 ^ P.bits) (hb : b < 2 ^ P.bits) :
    add P a b < 2 ^ P.bits ∧ add P a b = add P b a ∧ add P (add P a b) c = add P a (add P b c) ∧
    add P a 0 = a ∧ neg P 0 = 0 ∧ neg P a < 2 ^ P.bits ∧ add P a (neg P a) = 0 ∧ sub P a b = add P a (neg P b) := by
  refine ⟨Nat.xor_lt_two_pow ha hb, Nat.xor_comm _ _, Nat.xor_assoc _ _ _, Nat.xor_zero _, rfl, ha, Nat.xor_self _, rfl⟩

/-- every `u128` value computed by the reduction loop of `Mul`, in program order:
`b`, `POLYNOMIAL * b`, `(POLYNOMIAL * b) << i` and the updated `product`. -/
def reduceTrace (bits poly : Nat) : Nat → Nat → List Nat
  | 0, _ => []
  | n + 1, x =>
    let b := x >>> (bits + n)
    [b, poly * b, (poly * b) <<< n, x ^^^ ((poly * b) <<< n)] ++ reduceTrace bits poly n (x ^^^ ((poly * b) <<< n))

/-- the trace really is the loop: its last `product` is `reduceLoop`'s result -/
theorem reduceTrace_last (k p n x : Nat) :
    (reduceTrace k p n x).getLastD x = reduceLoop k p n x := by
  induction n generalizing x with
  | zero => rfl
  | succ n ih =>
    rw [reduceLoop, ← ih]
    simp only [reduceTrace, List.cons_append, List.nil_append, List.getLastD_cons]

theorem reduceTrace_bound {k p : Nat} (hp1 : 2 ^ k ≤ p) (hp2 : p < 2 ^ (k + 1)) (n x : Nat) (hx : x < 2 ^ (k + n)) :
    ∀ v ∈ reduceTrace k p n x, v < 2 ^ (k + n + 1) := by
  induction n generalizing x with
  | zero => intro v hv; cases hv
  | succ n ih =>
    obtain ⟨hb, hsh, hnew, _⟩ := reduce_step hp1 hp2 (n := n) hx
    have hpow {i : Nat} (hi : i ≤ k + n + 1) : 2 ^ i ≤ 2 ^ (k + (n + 1) + 1) :=
      Nat.pow_le_pow_right (by decide) (Nat.le_succ_of_le hi)
    intro v hv
    simp only [reduceTrace, List.cons_append, List.nil_append, List.mem_cons] at hv
    rcases hv with rfl | rfl | rfl | rfl | hv
    · exact Nat.lt_of_le_of_lt hb (Nat.one_lt_two_pow (Nat.succ_ne_zero _))
    · exact Nat.lt_of_le_of_lt (Nat.mul_le_mul_left p hb)
        (Nat.lt_of_lt_of_le (Nat.mul_one p ▸ hp2) (hpow (by omega)))
    · exact Nat.lt_of_lt_of_le hsh (hpow (Nat.le_refl _))
    · exact Nat.lt_of_lt_of_le hnew (hpow (Nat.le_succ _))
    · exact Nat.lt_of_lt_of_le (ih _ hnew v hv) (hpow (Nat.le_refl _))

/-- No `u128` overflow in `Mul`: for canonical operands of a well-formed field (`BITS ≤ 64`) the
carry-less product and every intermediate value of the reduction loop are below `2^128`
(indeed below `2^(2·BITS)`), and every multiplier `b` is `0` or `1`. -/
theorem gf_mul_no_overflow {P : Params} (w : WF P) {a b : Nat} (ha : a < 2 ^ P.bits) (hb : b < 2 ^ P.bits) :
    clmul P.bits a b < 2 ^ 128 ∧
    ∀ v ∈ reduceTrace P.bits P.poly (P.bits - 1) (clmul P.bits a b), v < 2 ^ 128 := by
  have hcl : clmul P.bits a b < 2 ^ (P.bits + (P.bits - 1)) :=
    clmul_eq_cl w.bits_le ha hb ▸ cl_lt_of_canonical w ha hb
  have hle : 2 ^ (P.bits + (P.bits - 1) + 1) ≤ 2 ^ 128 :=
    Nat.pow_le_pow_right (by decide) (by have := w.bits_le; have := w.bits_pos; omega)
  refine ⟨Nat.lt_of_lt_of_le (Nat.lt_trans hcl ?_) hle, ?_⟩
  · exact Nat.pow_lt_pow_right (by decide) (by omega)
  · intro v hv
    exact Nat.lt_of_lt_of_le (reduceTrace_bound w.poly_ge w.poly_lt _ _ hcl v hv) hle

theorem gf_truncate_canonical (P : Params) (v : Nat) :
    truncateFrom P v < 2 ^ P.bits ∧ truncateFrom P v = v % 2 ^ P.bits := by
  rw [truncateFrom_eq_mod]; exact ⟨Nat.mod_lt _ (Nat.two_pow_pos _), rfl⟩

/-- `try_from` accepts exactly the values below `2^BITS`, unchanged. -/
theorem gf_tryFrom_spec (P : Params) (v : Nat) :
    tryFrom P v = if v < 2 ^ P.bits then some v else none := tryFrom_eq P v

theorem gf_deserialize_eq_some (P : Params) (bs : List Nat) (v : Nat) :
    deserialize P bs = some v ↔
      bs.length = P.storeBytes ∧ Util.ofLeBytes bs < 2 ^ P.bits ∧ Util.ofLeBytes bs = v := by
  by_cases hl : bs.length = P.storeBytes <;> simp [deserialize, hl]

/-- `deserialize ∘ serialize = id` on canonical elements; hence equal values ⇔ identical bytes. -/
theorem gf_serialize_roundtrip (P : Params) (hs : P.bits ≤ 8 * P.storeBytes) {a : Nat} (ha : a < 2 ^ P.bits) :
    deserialize P (serialize P a) = some a := by
  have h := ofLeBytes_leBytes_of_fit hs ha
  exact (gf_deserialize_eq_some P _ a).mpr ⟨C09.leBytes_length _ _, h.symm ▸ ha, h⟩

theorem gf_serialize_injective (P : Params) (hs : P.bits ≤ 8 * P.storeBytes) {a b : Nat}
    (ha : a < 2 ^ P.bits) (hb : b < 2 ^ P.bits) (h : serialize P a = serialize P b) : a = b :=
  Option.some.inj ((gf_serialize_roundtrip P hs ha).symm.trans (h ▸ gf_serialize_roundtrip P hs hb))

theorem binary_fields_store_fits (P : Params) (hP : P ∈ binaryFields) : P.bits ≤ 8 * P.storeBytes := by
  revert P; decide

/-- `deserialize` accepts only canonical encodings (zero padding bits). -/
theorem gf_deserialize_canonical (P : Params) (bs : List Nat) (v : Nat) (h : deserialize P bs = some v) :
    v < 2 ^ P.bits := by
  obtain ⟨_, hlt, rfl⟩ := (gf_deserialize_eq_some P bs v).mp h
  exact hlt

/-! ### generator-order certificates emitted by the translator, checked by the kernel -/
theorem gf2_cert_ok : certOk gf2Cert = true := by decide +kernel
theorem gf3_cert_ok : certOk gf3Cert = true := by decide +kernel
theorem gf8_cert_ok : certOk gf8Cert = true := by decide +kernel
theorem gf9_cert_ok : certOk gf9Cert = true := by decide +kernel
theorem gf20_cert_ok : certOk gf20Cert = true := by decide +kernel
theorem gf32_cert_ok : certOk gf32Cert = true := by decide +kernel
theorem gf40_cert_ok : certOk gf40Cert = true := by decide +kernel

theorem gf2_field_exhaustive :
    ∀ a, a < 2 → a ≠ 0 → ∃ b, b < 2 ∧ mul gf2 a b = some 1 := by decide
theorem gf3_field_exhaustive :
    (∀ a, a < 8 → a ≠ 0 → ∃ b, b < 8 ∧ mul gf3 a b = some 1) ∧
    (∀ a, a < 8 → ∀ b, b < 8 → mul gf3 a b = some 0 → a = 0 ∨ b = 0) ∧
    (∀ a, a < 8 → ∀ b, b < 8 → ∀ c, c < 8 →
      (mul gf3 a b).bind (fun ab => mul gf3 ab c) = (mul gf3 b c).bind (fun bc => mul gf3 a bc)) :=
  ⟨by decide, by decide, fun _ ha _ hb _ hc => gf_mul_assoc (by decide) ha hb hc⟩

/-! ### defect F2: `x^20+x^7+x^3+x^2+1` and `x^40+x^5+x^3+x^2+1` are reducible -/
theorem gf20_former_polynomial_zero_divisor :
    mul { gf20 with poly := 0b1_0000_0000_0000_1000_1101 } 19 79339 = some 0 := by decide +kernel
theorem gf40_former_polynomial_zero_divisor :
    mul { gf40 with poly := 0b1_0000_0000_0000_0000_0000_0000_0000_0000_0010_1101 } 13 251069584289 = some 0 := by
  decide +kernel

/-- Non-vacuity of the hypotheses above: boundary elements of the largest field. -/
example : (2 ^ 40 - 1 : Nat) < 2 ^ gf40.bits ∧ (mul gf40 (2 ^ 40 - 1) (2 ^ 40 - 1)).isSome = true := by decide +kernel

end IpaVerif.C08
