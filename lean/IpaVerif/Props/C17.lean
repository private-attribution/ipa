import IpaVerif.Proofs.StreamsRecords
import IpaVerif.Proofs.StreamsLd
import IpaVerif.Proofs.StreamsChunks
import IpaVerif.Generated.StreamConsts
/-!
# C17 — byte-stream parsers are independent of chunking and total on arbitrary input

Model: `IpaVerif.Model.Streams` (transcription of `helpers/transport/stream/{input,buffered}.rs`
and `helpers/stream/{chunks,exact}.rs`).  The upstream is any list of `chunk bytes | err` items
(empty chunks allowed); `upBytes up` is the concatenation of the chunks before the first upstream
error and `upErr up` says whether there is one.  Every theorem is for **all** byte strings, all
chunkings, all record sizes `sz ≥ 1`.  `flattenItems` forgets how records were grouped into vectors
(`Batch` mode / `LengthDelimitedStream` return `Vec`s whose boundaries *do* depend on the chunking).
Deserialisation of the record type is applied on top of the raw records (see `Driver/C17.render`).
-/
namespace IpaVerif.C17
open IpaVerif.Streams

/-- `RecordsStream` (`Single`: exactly; `Batch`: after flattening
the vectors) yields the `sz`-byte records of the concatenated input followed by the terminal item
determined by the concatenation alone — so any two chunkings of the same bytes give the same records,
and the same error after the same number of records. -/
theorem records_chunking_independent (sz : Nat) (hsz : 0 < sz) (up up' : List Up)
    (hb : upBytes up = upBytes up') (he : upErr up = upErr up') :
    records false sz up = records false sz up' ∧
    flattenItems (records true sz up) = flattenItems (records true sz up') ∧
    records false sz up = specRecords sz (upBytes up) (upErr up) ∧
    flattenItems (records true sz up) = specRecords sz (upBytes up) (upErr up) := by
  have a := records_single_spec sz hsz
  have b := records_spec true sz hsz
  exact ⟨by rw [a, a, hb, he], by rw [b, b, hb, he], a up, b up⟩

-- Non-vacuity.
example : upBytes [.chunk [1, 2], .chunk [], .chunk [3]] = upBytes [.chunk [1], .chunk [2, 3]] ∧
    upErr [.chunk [1, 2], .chunk [], .chunk [3]] = upErr [.chunk [1], .chunk [2, 3]] := by decide

/-- `LengthDelimitedStream`, after flattening the
vectors, yields exactly what the chunk-free wire-format specification `specLd` says about the
concatenated input (lengths 0 and > 255, headers split across chunks, empty chunks included). -/
theorem length_delimited_chunking_independent (up up' : List Up)
    (hb : upBytes up = upBytes up') (he : upErr up = upErr up') :
    flattenItems (lengthDelimited up) = flattenItems (lengthDelimited up') ∧
    flattenItems (lengthDelimited up) = specLd (upErr up) none (upBytes up) := by
  have a := lengthDelimited_spec
  exact ⟨by rw [a, a, hb, he], a up⟩

/-- The records are exactly the encoded ones — none lost, duplicated, reordered or
altered: fixed-size records concatenate back to the input (up to the incomplete tail) and each has
`sz` bytes; length-delimited parsing inverts the encoder `encodeLd` for every list of records,
whatever follows (for records shorter than 2^16 the two header items `encodeLd` writes are bytes). -/
theorem records_exact (sz : Nat) (hsz : 0 < sz) (R : Bytes) (recs : List Bytes) (tail : Bytes) (e : Bool)
    (hrecs : ∀ r, r ∈ recs → r.length < 65536) :
    ((chunksOf sz (R.length / sz) R).flatten = R.take (R.length / sz * sz) ∧
      (∀ r, r ∈ chunksOf sz (R.length / sz) R → r.length = sz) ∧
      (chunksOf sz (R.length / sz) R).length = R.length / sz) ∧
    specLd e none (encodeLd recs ++ tail) = recs.map .record ++ specLd e none tail := by
  have h := chunksOf_spec sz (R.length / sz) R (Nat.div_mul_le_self _ _)
  exact ⟨⟨h.1, h.2, chunksOf_length sz _ R⟩, specLd_encode e tail recs⟩

-- Non-vacuity.
example : ∀ r, r ∈ [[1, 2, 3], [], [255]] → r.length < 65536 := by decide

/-- Without an upstream error, input that does not end on a record
boundary ends in an error item (never in a clean `None`), and input that does ends cleanly. -/
theorem trailing_partial_is_error (sz : Nat) (hsz : 0 < sz) (up : List Up) (hne : upErr up = false) :
    ((upBytes up).length % sz ≠ 0 →
      (records false sz up).getLast? = some (.errTrailing ((upBytes up).length % sz)) ∧
      (flattenItems (records true sz up)).getLast? = some (.errTrailing ((upBytes up).length % sz))) ∧
    ((upBytes up).length % sz = 0 →
      (records false sz up).getLast? = some .done ∧ (flattenItems (records true sz up)).getLast? = some .done) ∧
    -- length-delimited: a lone header byte, or a header whose payload is incomplete
    (∀ recs tail, (∀ r, r ∈ recs → r.length < 65536) → upBytes up = encodeLd recs ++ tail →
      (tail = [] → (flattenItems (lengthDelimited up)).getLast? = some .done) ∧
      (tail.length = 1 → (flattenItems (lengthDelimited up)).getLast? = some (.errTrailing 1)) ∧
      (2 ≤ tail.length → tail.length - 2 < le16 (tail.take 2) →
        ∃ k, 0 < k ∧ (flattenItems (lengthDelimited up)).getLast? = some (.errTrailing k))) := by
  rw [records_single_spec sz hsz, records_spec true sz hsz, hne, specRecords, List.getLast?_concat]
  refine ⟨fun h => ?_, fun h => ?_, fun recs tail _ hb => ?_⟩
  · rw [terminal, if_neg Bool.false_ne_true, if_pos (Nat.pos_of_ne_zero h)]; exact ⟨rfl, rfl⟩
  · rw [h]; exact ⟨rfl, rfl⟩
  · rw [lengthDelimited_spec, hb, specLd_encode, hne, List.getLast?_append, specLd_none]
    refine ⟨fun ht => ?_, fun ht => ?_, fun h2 hlt => ?_⟩
    · rw [ht]; rfl
    · rw [if_pos (ht ▸ Nat.lt_succ_self 1), ldTerminal, if_neg Bool.false_ne_true, if_pos (ht ▸ Nat.one_pos), ht]; rfl
    · rw [if_neg (Nat.not_lt.2 h2), specLd_some, if_pos (List.length_drop ▸ hlt), ldTerminal,
        if_neg Bool.false_ne_true]
      split
      · exact ⟨_, ‹_›, rfl⟩
      · exact ⟨2, Nat.two_pos, rfl⟩

-- Non-vacuity.
example : upErr [.chunk [1, 2, 3]] = false ∧ (upBytes [.chunk [1, 2, 3]]).length % 2 ≠ 0 := by decide

/-- For every input and chunking the parsers never panic (no index out of
bounds in `read_bytes`, no `unwrap` on an empty deque, no exhausted loop). -/
theorem parsers_total (sz : Nat) (hsz : 0 < sz) (up : List Up) :
    Item.panic ∉ records false sz up ∧ Item.panic ∉ records true sz up ∧
    Item.panic ∉ lengthDelimited up ∧ Item.panic ∉ buffered sz up := by
  refine ⟨?_, fun h => ?_, fun h => ?_, ?_⟩
  · rw [records_single_spec sz hsz]; exact specRecords_no_panic _ _ _
  · exact specRecords_no_panic _ _ _ (records_spec true sz hsz up ▸ panic_mem_flatten h)
  · exact specLd_no_panic _ _ _ (lengthDelimited_spec up ▸ panic_mem_flatten h)
  · rw [buffered_spec sz hsz]; exact specBuffered_no_panic _ _ _

/-- `BufferedBytesStream` re-chunks without touching the bytes: whole
`sz`-byte items of the concatenated input, then — only at a clean end of the input — the shorter
non-empty remainder, then the end; an upstream error is passed on after the whole items. -/
theorem buffered_rechunk (sz : Nat) (hsz : 0 < sz) (up : List Up) :
    buffered sz up = specBuffered sz (upBytes up) (upErr up) ∧
    ((chunksOf sz ((upBytes up).length / sz) (upBytes up)).flatten ++
        (upBytes up).drop ((upBytes up).length / sz * sz) = upBytes up) ∧
    (∀ r, r ∈ chunksOf sz ((upBytes up).length / sz) (upBytes up) → r.length = sz) ∧
    ((upBytes up).drop ((upBytes up).length / sz * sz)).length = (upBytes up).length % sz := by
  have h := chunksOf_spec sz ((upBytes up).length / sz) (upBytes up) (Nat.div_mul_le_self _ _)
  refine ⟨buffered_spec sz hsz up, ?_, h.2, ?_⟩
  · rw [h.1, List.take_append_drop]
  · rw [List.length_drop, Nat.mul_comm]
    exact Nat.sub_eq_of_eq_add (Nat.mod_add_div _ _).symm

/-- `process_slice_by_chunks::<N>` yields `⌈n/N⌉` chunks of exactly `N`
items, indexed `0,1,…`, all `Full` except a final `Partial(n mod N)` when `N ∤ n`, padded with
defaults; iterating the chunks (`Chunk::into_iter`) gives back exactly the input — the padding is
dropped and nothing else. -/
theorem chunks_tail_padding {α} (N : Nat) (hN : 0 < N) (dflt : α) (l : List α) :
    (sliceChunks N dflt l).length = (l.length + N - 1) / N ∧
    (∀ c, c ∈ sliceChunks N dflt l → c.2.2.length = N) ∧
    (sliceChunks N dflt l).flatMap (fun c => chunkIter N c.2) = l ∧
    (sliceChunks N dflt l).map (·.2.1) =
      List.replicate (l.length / N) .full ++ (if l.length % N ≠ 0 then [.part (l.length % N)] else []) ∧
    (sliceChunks N dflt l).map (·.1) = List.range ((l.length + N - 1) / N) := by
  have h := sliceChunksFrom_spec N hN dflt (l.length + 1) 0 l (Nat.lt_succ_self _)
  exact ⟨h.1, h.2.1, h.2.2.1, h.2.2.2.1, h.2.2.2.2.trans List.range_eq_range'.symm⟩

/-- For a chunk produced by a chunk processor (`Full`, or
`Partial(len)` with `len ≤ N`) whose data was split into `N / M` sub-chunks (`M ∣ N`, `M ≥ 1`),
`Chunk::unpack::<M>` does not panic; the sub-chunk lengths add up to the chunk's length and the
sub-chunks are the first `⌈len/M⌉` payloads in order. -/
theorem unpack_precondition_holds {α} (N M : Nat) (hM : 0 < M) (hdiv : N % M = 0) (ct : ChunkType)
    (data : List α) (hdata : data.length = N / M) (hct : ctLen N ct ≤ N) :
    ∃ subs, unpack N M ct data = .ok subs ∧
      (subs.map (fun c => ctLen M c.1)).sum = ctLen N ct ∧
      subs.map (·.2) = data.take ((ctLen N ct + M - 1) / M) := by
  have hNM : N / M * M = N := Nat.div_mul_cancel (Nat.dvd_of_mod_eq_zero hdiv)
  obtain ⟨h1, h2⟩ := unpackGo_spec M hM data (ctLen N ct)
  rw [hdata, hNM, Nat.min_eq_left hct] at h1
  unfold unpack
  rw [if_neg (Nat.ne_of_gt hM), if_neg (fun h => h hdiv)]
  cases ct with
  | full =>
    dsimp only
    rw [decide_eq_true hdata]
    exact ⟨_, rfl, h1, h2⟩
  | part len =>
    have hle : (len + M - 1) / M ≤ N / M := by
      rw [Nat.div_le_iff_le_mul_add_pred hM, Nat.mul_comm, hNM, Nat.add_sub_assoc hM]
      exact Nat.add_le_add_right hct _
    dsimp only
    rw [decide_eq_true ⟨hdata ▸ hle, Nat.le_of_eq hdata⟩]
    exact ⟨_, rfl, h1, h2⟩

-- Non-vacuity.
example : (8 : Nat) % 4 = 0 ∧ ([10, 11] : List Nat).length = 8 / 4 ∧ ctLen 8 (.part 5) ≤ 8 := by decide

/-- `TryFlattenIters` yields the concatenation of the iterables before the first error, then the
error, then ends; `process_stream_by_chunks` cuts the items before the first error into chunks of
`N` (the partial tail padded only at a clean end) and passes an upstream error on. -/
theorem try_flatten_and_stream_chunks {α} (N : Nat) (hN : 0 < N) (dflt : α)
    (ls : List (TItem (List α))) (l : List (TItem α)) :
    tryFlatten ls =
      ((ls.takeWhile (· matches .ok _)).flatMap (fun | .ok x => x.map TItem.ok | .err => [])) ++
        (if (ls.all (· matches .ok _)) then [] else [.err]) ∧
    ((streamChunks N dflt l).flatMap (chunkVals N) =
      if hasErrT l then (okPrefix l).take ((okPrefix l).length / N * N) else okPrefix l) ∧
    (hasErrT l = true → (streamChunks N dflt l).getLast? = some .err) := by
  have h := streamChunksGo_spec N hN dflt l [] 0 hN
  exact ⟨tryFlatten_spec ls, h.1, h.2⟩

/-- The header size regenerated from `input.rs` on every run is the literal `2` that `ldHeader` and
`consumedAfter` use. -/
theorem length_header_is_u16 : IpaVerif.Generated.lengthHeaderSize = 2 := rfl

end IpaVerif.C17
