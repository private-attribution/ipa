import IpaVerif.Model.Padding
import IpaVerif.Proofs.DpSampler
import IpaVerif.Props.C01
/-!
# C12 — dummy records are valid sharings that contribute nothing

About `IpaVerif.Padding` (the rows `apply_dp_padding` appends, as a function of the pair's PRSS stream).

`dummy_contributes_nothing`: the modelled OPRF dummies satisfy EXACTLY the hypotheses `hzero` of C01's
`keySum_append_fresh` / `pipeline_eq_spec`, and the aggregation dummies the hypothesis `hd2` of `bucketSum_zero`;
hence no key-wise total and no bucket changes.  The remaining hypothesis `hfresh` (a dummy's random 64-bit match
key differs from every real match key; two dummy groups colliding is harmless for the totals because the payload
is zero) is PROBABILISTIC — at most `#dummies · #reports / 2^64` — and stays an assumption.
-/
namespace IpaVerif.C12
open IpaVerif.Padding IpaVerif.Hybrid IpaVerif.Dp

/-- For every value and every excluded helper `e < 3`: consistency between neighbouring
helpers (`h.right = (h+1).left`), reconstruction, zero shares at the excluded helper. -/
theorem place_shares_valid (v e : Nat) (he : e < 3) :
    (placeShares v e 0).2 = (placeShares v e 1).1 ∧ (placeShares v e 1).2 = (placeShares v e 2).1 ∧
    (placeShares v e 2).2 = (placeShares v e 0).1 ∧
    ((placeShares v e 0).1 ^^^ (placeShares v e 1).1 ^^^ (placeShares v e 2).1) = v ∧
    placeShares v e e = (0, 0) := by
  have : e = 0 ∨ e = 1 ∨ e = 2 := by omega
  rcases this with rfl | rfl | rfl <;> simp [placeShares]

/-- the three passes of `apply_dp_padding` exclude H3, H2, H1 — every helper exactly once. -/
theorem passes_exclude_each_once : [excludedOfPass 1, excludedOfPass 2, excludedOfPass 3] = [2, 1, 0] := rfl

theorem genKey_lt {s : List Nat} {k : Nat} {rest : List Nat} (h : genKey s = some (k, rest)) : k < 2 ^ 64 := by
  match s, h with
  | a :: _ :: _, h =>
    obtain ⟨rfl, _⟩ := Prod.mk.inj (Option.some.inj h)
    exact Nat.mod_lt _ (by decide)

theorem keyGroups_spec (c n : Nat) (s : List Nat) (gs : List (List Rec)) (r : List Nat)
    (h : keyGroups c n s = some (gs, r)) :
    gs.length = n ∧ ∀ g ∈ gs, ∃ k, k < 2 ^ 64 ∧ g = List.replicate c (dummyRec k) := by
  fun_induction keyGroups c n s generalizing gs r with
  | case1 =>
    obtain ⟨rfl, _⟩ := Prod.mk.inj (Option.some.inj h)
    exact ⟨rfl, fun _ hg => nomatch hg⟩
  | case2 => cases h
  | case3 n s k rest hk ih =>
    obtain ⟨⟨gs', r'⟩, hrec, hp⟩ := Option.map_eq_some_iff.mp h
    obtain ⟨rfl, rfl⟩ := Prod.mk.inj hp
    obtain ⟨hl, hg⟩ := ih gs' r' hrec
    exact ⟨congrArg (· + 1) hl, List.forall_mem_cons.mpr ⟨⟨k, genKey_lt hk, rfl⟩, hg⟩⟩

theorem oprfLoop_spec (pInt shift c n : Nat) (s : List Nat) (gs : List CardGroups) (r : List Nat)
    (h : oprfLoop pInt shift c n s = some (gs, r)) :
    gs.map (·.1) = List.range' c n ∧
    ∀ g ∈ gs, g.2.2.length = g.2.1 ∧ g.2.1 ≤ 2 * shift ∧
      ∀ grp ∈ g.2.2, ∃ k, k < 2 ^ 64 ∧ grp = List.replicate g.1 (dummyRec k) := by
  fun_induction oprfLoop pInt shift c n s generalizing gs r with
  | case1 =>
    obtain ⟨rfl, _⟩ := Prod.mk.inj (Option.some.inj h)
    exact ⟨rfl, fun _ hg => nomatch hg⟩
  | case2 => cases h
  | case3 => cases h
  | case4 c n s sample s1 hs g0 s2 hk ih =>
    obtain ⟨⟨rest, r'⟩, hrec, hp⟩ := Option.map_eq_some_iff.mp h
    obtain ⟨rfl, rfl⟩ := Prod.mk.inj hp
    obtain ⟨hc, hg⟩ := ih rest r' hrec
    obtain ⟨hl0, hg0⟩ := keyGroups_spec c sample s1 g0 s2 hk
    exact ⟨by rw [List.map_cons, hc, List.range'_succ],
      List.forall_mem_cons.mpr ⟨⟨hl0, truncatedSample_le pInt shift _ s sample s1 hs, hg0⟩, hg⟩⟩

/-- Every OPRF dummy has breakdown key 0 and value 0. -/
theorem oprf_dummies_zero_payload (pInt shift cap : Nat) (s : List Nat) (gs : List CardGroups) (r : List Nat)
    (h : oprfPass pInt shift cap s = some (gs, r)) :
    ∀ rec ∈ oprfRows gs, rec.bk = 0 ∧ rec.v = 0 := by
  obtain ⟨_, hg⟩ := oprfLoop_spec pInt shift 1 cap s gs r h
  intro rec hrec
  simp only [oprfRows, List.mem_flatten, List.mem_map] at hrec
  obtain ⟨l, ⟨g, hgm, rfl⟩, hl⟩ := hrec
  obtain ⟨grp, hgrp, hin⟩ := List.mem_flatten.mp hl
  obtain ⟨k, _, rfl⟩ := (hg g hgm).2.2 grp hgrp
  have := List.eq_of_mem_replicate hin
  subst this
  exact ⟨rfl, rfl⟩

/-- The cardinalities are exactly `1, 2, …, cap`, in this order. -/
theorem oprf_cardinalities (pInt shift cap : Nat) (s : List Nat) (gs : List CardGroups) (r : List Nat)
    (h : oprfPass pInt shift cap s = some (gs, r)) : gs.map (·.1) = List.range' 1 cap :=
  (oprfLoop_spec pInt shift 1 cap s gs r h).1

/-- At cardinality `c` there are exactly `sample_c ≤ 2n` groups (the sampler's draw), and
each group is ONE 64-bit match key repeated exactly `c` times. -/
theorem oprf_dummies_grouped (pInt shift cap : Nat) (s : List Nat) (gs : List CardGroups) (r : List Nat)
    (h : oprfPass pInt shift cap s = some (gs, r)) :
    ∀ g ∈ gs, g.2.2.length = g.2.1 ∧ g.2.1 ≤ 2 * shift ∧
      ∀ grp ∈ g.2.2, grp.length = g.1 ∧ ∃ k, k < 2 ^ 64 ∧ ∀ rec ∈ grp, rec = dummyRec k := by
  obtain ⟨_, hg⟩ := oprfLoop_spec pInt shift 1 cap s gs r h
  intro g hgm
  obtain ⟨h1, h2, h3⟩ := hg g hgm
  refine ⟨h1, h2, ?_⟩
  intro grp hgrp
  obtain ⟨k, hk, rfl⟩ := h3 grp hgrp
  exact ⟨by simp, k, hk, fun rec hrec => List.eq_of_mem_replicate hrec⟩

/-- The count both generating helpers send to the excluded helper equals the number of rows
they appended (so all three helpers extend their vectors by the same length). -/
theorem oprf_total_is_rows (pInt shift cap : Nat) (s : List Nat) (gs : List CardGroups) (r : List Nat)
    (h : oprfPass pInt shift cap s = some (gs, r)) : oprfTotal gs = (oprfRows gs).length := by
  obtain ⟨_, hg⟩ := oprfLoop_spec pInt shift 1 cap s gs r h
  rw [oprfTotal, oprfRows, List.length_flatten, List.map_map]
  refine congrArg List.sum (List.map_congr_left fun g hgm => ?_)
  obtain ⟨h1, _, h3⟩ := hg g hgm
  -- `sample` groups of `cardinality` rows each
  have hlen : ∀ x ∈ g.2.2.map List.length, x = g.1 := fun x hx => by
    obtain ⟨grp, hgrp, rfl⟩ := List.mem_map.mp hx
    obtain ⟨k, _, rfl⟩ := h3 grp hgrp
    exact List.length_replicate
  rw [Function.comp, List.length_flatten, List.sum_eq_card_nsmul _ _ hlen, List.length_map, h1]
  rfl

theorem aggLoop_spec (pInt shift bk n : Nat) (s : List Nat) (l : List (Nat × Nat)) (r : List Nat)
    (h : aggLoop pInt shift bk n s = some (l, r)) : l.map (·.1) = List.range' bk n := by
  fun_induction aggLoop pInt shift bk n s generalizing l r with
  | case1 =>
    obtain ⟨rfl, _⟩ := Prod.mk.inj (Option.some.inj h)
    rfl
  | case2 => cases h
  | case3 bk n s sample s1 hs ih =>
    obtain ⟨⟨rest, r'⟩, hrec, hp⟩ := Option.map_eq_some_iff.mp h
    obtain ⟨rfl, rfl⟩ := Prod.mk.inj hp
    rw [List.map_cons, ih rest r' hrec, List.range'_succ]

/-- One draw for every breakdown key `0, 1, …, B − 1`, in order. -/
theorem agg_covers_breakdowns (pInt shift b : Nat) (s : List Nat) (l : List (Nat × Nat)) (r : List Nat)
    (h : aggPass pInt shift b s = some (l, r)) : l.map (·.1) = List.range b := by
  rw [List.range_eq_range']; exact aggLoop_spec pInt shift 0 b s l r h

/-- Every aggregation dummy has value 0 and a breakdown key below `2^BK::BITS`. -/
theorem agg_dummies_zero_value (bkBits : Nat) (l : List (Nat × Nat)) :
    ∀ row ∈ aggRows bkBits l, row.2 = 0 ∧ row.1 < 2 ^ bkBits := by
  intro row hrow
  simp only [aggRows, List.mem_flatten, List.mem_map] at hrow
  obtain ⟨x, ⟨e, _, rfl⟩, hx⟩ := hrow
  have := List.eq_of_mem_replicate hx
  subst this
  exact ⟨rfl, Nat.mod_lt _ (Nat.pow_pos (by decide))⟩

/-- Count sent to the excluded helper = rows appended. -/
theorem agg_total_is_rows (bkBits : Nat) (l : List (Nat × Nat)) : aggTotal l = (aggRows bkBits l).length := by
  unfold aggTotal aggRows
  rw [List.length_flatten, List.map_map]
  congr 1
  apply List.map_congr_left
  intro e _
  simp

/-- The modelled padding rows satisfy exactly the hypotheses under which C01's
`pipeline_eq_spec` is proved: OPRF dummies `hzero` (proved here) + `hfresh` (probabilistic, assumed), aggregation
dummies `hd2` (proved here).  Consequently no key-wise total and no bucket sum changes. -/
theorem dummy_contributes_nothing (w : Widths) (pInt shift cap : Nat) (s : List Nat) (gs : List CardGroups)
    (r : List Nat) (h : oprfPass pInt shift cap s = some (gs, r)) (input : List Rec)
    (hfresh : ∀ d ∈ oprfRows gs, ∀ r' ∈ input, r'.key ≠ d.key)
    (bkBits : Nat) (l : List (Nat × Nat)) (b : Nat) :
    C01.keySum w (input ++ oprfRows gs) b = C01.keySum w input b ∧
    C01.bucketSum (aggRows bkBits l) b = 0 :=
  ⟨C01.keySum_append_fresh w input (oprfRows gs) b (oprf_dummies_zero_payload pInt shift cap s gs r h) hfresh,
   C01.bucketSum_zero (aggRows bkBits l) (fun row hrow => (agg_dummies_zero_value bkBits l row hrow).1) b⟩

/-- non-vacuity: a concrete stream on which the OPRF pass succeeds (p_int = 2^63: a draw below it is a success;
shift 1, cap 2: cardinality 1 draws sample 1 and one key, cardinality 2 draws sample 1 and one key). -/
example : (oprfPass (2 ^ 63) 1 2 [0, 0, 77, 5, 0, 0, 88, 6]).map (fun x => oprfRows x.1)
    = some [dummyRec 77, dummyRec 88, dummyRec 88] := by decide

end IpaVerif.C12
