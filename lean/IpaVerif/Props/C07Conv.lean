import IpaVerif.Model.Conv
import IpaVerif.Props.C07
import IpaVerif.Props.C07Lift
import IpaVerif.Generated.C07Consts
import Mathlib.Data.ZMod.Basic
import Mathlib.Tactic.Ring
/-!
# C07 — `conv_value`: `convert_to_fp25519` converts a Boolean sharing into an `Fp25519` sharing of the same value

`conv_value`: for every modulus `ℓ > 0` (`ℓ` is a parameter; nothing else about it is assumed), every width
`BITS ≥ 2`, every input sharing `x` of `n ≤ BITS − 1` consistent bit shares (the code asserts `n < BITS − 128`,
i.e. `n ≤ 127` for `BITS = 256`: `conv_value_code`), ALL PRSS outputs `r1, r3` (any `BITS` bits each) and ALL
multiplication masks `ρ`:

* `y = x + r + s` is computed by the two bit adders WITHOUT wrap-around modulo `2^BITS` (`r`, `s` = the PRSS
  components after their two top bits are cleared);
* H1 and H2 obtain the same bits of `y` from the partial reveal, and `malicious_reveal`'s comparison passes;
* the three output shares are consistent and sum to `x mod ℓ`.

The proof needs only `n ≤ BITS − 1`; the stricter `n ≤ 127` of the code is about statistical hiding of the carry
(leakage), not functional correctness.
-/
namespace IpaVerif.C07
open IpaVerif.Sharing IpaVerif.Circuits IpaVerif.Conv

theorem val_clear_two : ∀ (k : Nat) (l : List Bool), l.length = k + 2 →
    val ((l.set (k + 1) false).set k false) < 2 ^ k
  | 0, [_, _], _ => Nat.one_pos
  | k + 1, a :: l, hl => by
    have := val_clear_two k l (Nat.succ.inj hl)
    have ha := Bool.toNat_lt a
    rw [List.set_cons_succ, List.set_cons_succ, val, Nat.pow_succ]; omega

theorem clearTop2_length (bits : Nat) (r : List Bool) : (clearTop2 bits r).length = r.length := by
  rw [clearTop2, List.length_set, List.length_set]

theorem clearTop2_lt (bits : Nat) (r : List Bool) (hb : 2 ≤ bits) (hr : r.length = bits) :
    val (clearTop2 bits r) * 4 < 2 ^ bits := by
  obtain ⟨k, rfl⟩ : ∃ k, bits = k + 2 := ⟨bits - 2, (Nat.sub_add_cancel hb).symm⟩
  have : val ((r.set (k + 1) false).set k false) < 2 ^ k := val_clear_two k r hr
  rw [Nat.pow_add]
  exact Nat.mul_lt_mul_of_pos_right this (by decide)

theorem set_false_of_val_lt : ∀ (l : List Bool) (k : Nat), val l < 2 ^ k → l.set k false = l
  | [], _, _ => rfl
  | b :: bs, 0, h => by
    cases b
    · rfl
    · exact absurd h (Nat.not_lt.mpr (Nat.le_add_right 1 _))
  | b :: bs, k + 1, h => by
    rw [val, Nat.pow_succ, Nat.mul_comm (2 ^ k) 2] at h
    rw [List.set_cons_succ, set_false_of_val_lt bs k
      (Nat.lt_of_mul_lt_mul_left (Nat.lt_of_le_of_lt (Nat.le_add_left ..) h))]

theorem recB_shR (l : List Bool) : (shR l).map recB = l :=
  Function.LeftInverse.list_map (f := recB) (fun b => by cases b <;> rfl) l
theorem recB_shS (l : List Bool) : (shS l).map recB = l :=
  Function.LeftInverse.list_map (f := recB) (fun b => by cases b <;> rfl) l
theorem shS_h1l (l : List Bool) : (shS l).map (·.h1.l) = l := Function.LeftInverse.list_map (fun _ => rfl) l
theorem shS_h3r (l : List Bool) : (shS l).map (·.h3.r) = l := Function.LeftInverse.list_map (fun _ => rfl) l
theorem shR_h2r (l : List Bool) : (shR l).map (·.h2.r) = l := Function.LeftInverse.list_map (fun _ => rfl) l
theorem shR_h3l (l : List Bool) : (shR l).map (·.h3.l) = l := Function.LeftInverse.list_map (fun _ => rfl) l

theorem allC_set (l : List (World Bool)) (k : Nat) (z : World Bool) (hl : AllC l) (hz : Consistent z) :
    AllC (l.set k z) := fun w hw =>
  (List.mem_or_eq_of_mem_set hw).elim (hl w) (· ▸ hz)

theorem reveal_of_consistent (w : World Bool) (h : Consistent w) :
    revealH1 w = recB w ∧ revealH2 w = recB w ∧ malCheckH1 w = true ∧ malCheckH2 w = true := by
  obtain ⟨h1, h2, h3⟩ := h
  simp only [revealH1, revealH2, malCheckH1, malCheckH2, recB, reconstruct, boolAlg, h1, h2, h3, beq_self_eq_true,
    and_true]
  rw [Bool.xor_assoc, Bool.xor_comm]

theorem map_reveal (l : List (World Bool)) (h : AllC l) :
    l.map revealH1 = l.map recB ∧ l.map revealH2 = l.map recB ∧
    l.all (fun w => malCheckH1 w && malCheckH2 w) = true :=
  ⟨List.map_congr_left fun w hw => (reveal_of_consistent w (h w hw)).1,
    List.map_congr_left fun w hw => (reveal_of_consistent w (h w hw)).2.1,
    List.all_eq_true.mpr fun w hw => by
      rw [(reveal_of_consistent w (h w hw)).2.2.1, (reveal_of_consistent w (h w hw)).2.2.2]; rfl⟩

theorem add_shares_exact (ρ : Path → Masks Bool) (p : Path) (x y : List (World Bool)) (hx : AllC x) (hy : AllC y)
    (h : val (x.map recB) + val (y.map recB) < 2 ^ x.length) :
    AllC (integerAdd (shareAlg ρ) p x y).1 ∧ ((integerAdd (shareAlg ρ) p x y).1.map recB).length = x.length ∧
    val ((integerAdd (shareAlg ρ) p x y).1.map recB) = val (x.map recB) + val (y.map recB) := by
  obtain ⟨hc, _, hv, _⟩ := add_shares ρ p x y hx hy
  rw [hv, integerAdd_length, List.length_map]
  exact ⟨hc, rfl, integer_add_exact p _ _ (by rwa [List.length_map])⟩

/-- the ring-level core of `conv_value`: the output shares `(−s, y, −r)` sum to `x` (`Fp25519 = ZMod ℓ`). -/
theorem conv_shares_sum {R : Type} [CommRing R] (x r s : Nat) :
    (-(s : R)) + ((x + r + s : Nat) : R) + (-(r : R)) = (x : R) := by
  push_cast; ring

/-- the share pattern of the output is consistent: H1 `(−s, y)`, H2 `(y, −r)`, H3 `(−r, −s)`. -/
theorem conv_shares_consistent {R : Type} (ms y mr : R) :
    let h1 := (ms, y); let h2 := (y, mr); let h3 := (mr, ms)
    h1.2 = h2.1 ∧ h2.2 = h3.1 ∧ h3.2 = h1.1 := ⟨rfl, rfl, rfl⟩

theorem fp_shares_sum (ell x r s : Nat) (hl : 0 < ell) :
    let F := modAlg ell
    F.add (F.add (F.neg (s % ell)) ((x + r + s) % ell)) (F.neg (r % ell)) = x % ell := by
  have hs := Nat.mod_lt s hl
  have hr := Nat.mod_lt r hl
  simp only [modAlg]
  have : NeZero ell := ⟨by omega⟩
  apply (ZMod.natCast_eq_natCast_iff' _ _ ell).mp
  simp only [ZMod.natCast_mod, Nat.cast_add, Nat.cast_sub hs.le, Nat.cast_sub hr.le, ZMod.natCast_self, zero_sub]
  rw [← Nat.cast_add, ← Nat.cast_add]
  exact conv_shares_sum x r s

/-- see the module header. -/
theorem conv_value (ell bits : Nat) (ρ : Path → Masks Bool) (p : Path) (r1 r3 : List Bool)
    (x : List (World Bool)) (hl : 0 < ell) (hb : 2 ≤ bits) (hr1 : r1.length = bits) (hr3 : r3.length = bits)
    (hx : AllC x) (hn : x.length ≤ bits - 1) :
    let R := convert ell bits ρ p r1 r3 x
    let r := val (clearTop2 bits r3)
    let s := val (clearTop2 bits r1)
    let X := val (x.map recB)
    -- no wrap-around: the revealed bit string is the integer x + r + s (`BITS` bits)
    r + s < 2 ^ (bits - 1) ∧ X + r + s < 2 ^ bits ∧
    R.y1.length = bits ∧ val R.y1 = X + r + s ∧ R.y2 = R.y1 ∧ R.malOk = true ∧
    -- the output is a consistent sharing of x mod ℓ
    Consistent R.out ∧ reconstruct (modAlg ell) R.out = X % ell := by
  intro R r s X
  have hr : r * 4 < 2 ^ bits := clearTop2_lt bits r3 hb hr3
  have hs : s * 4 < 2 ^ bits := clearTop2_lt bits r1 hb hr1
  have hX : X < 2 ^ (bits - 1) :=
    Nat.lt_of_lt_of_le (val_lt _) (Nat.pow_le_pow_right Nat.two_pos (by rwa [List.length_map]))
  have hp : 2 ^ bits = 2 ^ (bits - 1) * 2 := by rw [← Nat.pow_succ, Nat.succ_eq_add_one, Nat.sub_add_cancel (Nat.le_of_lt hb)]
  have hrs : r + s < 2 ^ (bits - 1) := by omega
  have hsum : X + r + s < 2 ^ bits := by omega
  have hlen : (shR (clearTop2 bits r3)).length = bits := by rw [shR, List.length_map, clearTop2_length, hr3]
  obtain ⟨c1, l1, v1⟩ := add_shares_exact ρ (p ++ [stepMasks]) (shR (clearTop2 bits r3)) (shS (clearTop2 bits r1))
    (allC_map _ (fun _ => ⟨rfl, rfl, rfl⟩) _) (allC_map _ (fun _ => ⟨rfl, rfl, rfl⟩) _)
    (by rw [recB_shR, recB_shS, hlen]; exact Nat.lt_of_lt_of_le hrs (Nat.pow_le_pow_right Nat.two_pos (Nat.sub_le ..)))
  rw [recB_shR, recB_shS] at v1
  rw [List.length_map, hlen] at l1
  -- forced-zero top share: value unchanged, still consistent
  have hz : List.map recB (List.set _ (bits - 1) (zeroS boolAlg)) = _ :=
    (List.map_set ..).trans (set_false_of_val_lt _ (bits - 1) (v1.trans_lt hrs))
  obtain ⟨c2, l2, v2⟩ := add_shares_exact ρ (p ++ [stepX]) _ x (allC_set _ (bits - 1) _ c1 ⟨rfl, rfl, rfl⟩) hx
    (by rw [hz, v1, List.length_set, l1, Nat.add_comm, ← Nat.add_assoc]; exact hsum)
  rw [hz, v1, Nat.add_comm, ← Nat.add_assoc] at v2
  rw [List.length_map, List.length_set, l1] at l2
  obtain ⟨m1, m2, m3⟩ := map_reveal _ c2
  refine ⟨hrs, hsum, ?_, ?_, m2.trans m1.symm, m3, ⟨congrArg (fpOfBits ell) (m1.trans m2.symm), ?_, ?_⟩, ?_⟩
  · exact (List.length_map ..).trans l2
  · exact (congrArg val m1).trans v2
  · simp only [R, convert, shR_h2r, shR_h3l]
  · simp only [R, convert, shS_h3r, shS_h1l]
  · simp only [R, convert, reconstruct, shS_h1l, shR_h3l, fpOfBits, m2, v2]
    exact fp_shares_sum ell X r s hl

/-- non-vacuity of the hypotheses: a 3-bit input at `BITS = 8`. -/
example : AllC [knownS boolAlg true, zeroS boolAlg, knownS boolAlg true] ∧ (3 : Nat) ≤ 8 - 1 := by
  refine ⟨?_, by decide⟩
  intro w hw; simp at hw; rcases hw with rfl | rfl | rfl <;> exact ⟨rfl, rfl, rfl⟩

/-- the instance the code runs: `BITS` and the asserted input width are the extracted
constants (`debug_assert!(input_shares.iter().count() < (BITS − 128))`), `ℓ` the order of the Ristretto group. -/
theorem conv_value_code (ell : Nat) (ρ : Path → Masks Bool) (p : Path) (r1 r3 : List Bool) (x : List (World Bool))
    (hl : 0 < ell) (hr1 : r1.length = Generated.C07.convBits) (hr3 : r3.length = Generated.C07.convBits)
    (hx : AllC x) (hn : x.length < Generated.C07.convBits - Generated.C07.convSlack) :
    let R := convert ell Generated.C07.convBits ρ p r1 r3 x
    val R.y1 = val (x.map recB) + val (clearTop2 Generated.C07.convBits r3) + val (clearTop2 Generated.C07.convBits r1) ∧
    R.y2 = R.y1 ∧ R.malOk = true ∧ Consistent R.out ∧
    reconstruct (modAlg ell) R.out = val (x.map recB) % ell := by
  have h := conv_value ell Generated.C07.convBits ρ p r1 r3 x hl (by decide) hr1 hr3 hx
    (Nat.le_of_lt (Nat.lt_of_lt_of_le hn (by decide)))
  obtain ⟨-, -, -, hy, h2, hm, hc, hrec⟩ := h
  exact ⟨hy, h2, hm, hc, hrec⟩

/-- The arithmetic behind clearing the two top mask bits, on the smallest instance: with 2-bit masks left uncleared
(`r = s = 3`) and `x = 1`, `x + r + s = 7` wraps modulo `2^2`. -/
theorem conv_uncleared_masks_wrap : (1 + 3 + 3) % 2 ^ 2 ≠ 1 + 3 + 3 := by decide

end IpaVerif.C07
