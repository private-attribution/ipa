import IpaVerif.Model.Circuits
import IpaVerif.Props.C07
import IpaVerif.Props.C07Shares
/-!
# C07 — the lifting lemma

Every circuit of `IpaVerif.Model.Circuits` is built from local xor / not / constants and the interactive
multiplication. A map `f` that commutes with these gates (`IsHom`) commutes with every circuit
(`*_hom`, by induction on the loops — all lengths). Instantiated with the two projections of the algebra of
*consistent* replicated sharings (`Subtype.val` onto the raw three-helper views, `recB` onto the plaintext bit)
this gives, for ALL PRSS masks: `reconstruct ∘ circuit_on_shares = circuit_plain ∘ reconstruct`, and every
output is again a consistent sharing (`*_shares`).
-/
namespace IpaVerif.C07
open IpaVerif.Sharing IpaVerif.Circuits

variable {α β : Type}

structure IsHom (A : SecureAlg α) (B : SecureAlg β) (f : α → β) : Prop where
  zero : f A.zero = B.zero
  one : f A.one = B.one
  xor : ∀ a b, f (A.xor a b) = B.xor (f a) (f b)
  not : ∀ a, f (A.not a) = B.not (f a)
  neg : ∀ a, f (A.neg a) = B.neg (f a)
  mul : ∀ p a b, f (A.mul p a b) = B.mul p (f a) (f b)

variable {A : SecureAlg α} {B : SecureAlg β} {f : α → β}

theorem headD_map (h : IsHom A B f) (y : List α) : (y.map f).headD B.zero = f (y.headD A.zero) := by
  cases y
  · exact h.zero.symm
  · rfl

theorem additionCircuit_hom (h : IsHom A B f) (p : Path) (x : List α) : ∀ (i : Nat) (y : List α) (c : α),
    additionCircuit B p i (x.map f) (y.map f) (f c) =
      ((additionCircuit A p i x y c).1.map f, f (additionCircuit A p i x y c).2) := by
  induction x with
  | nil => intro i y c; rfl
  | cons xb xs ih =>
    intro i y c
    simp only [List.map_cons, additionCircuit, bitAdder, headD_map h, ← List.map_tail, ← h.xor, ← h.mul, ih]

theorem subtractionCircuit_hom (h : IsHom A B f) (p : Path) (x : List α) : ∀ (i : Nat) (y : List α) (c : α),
    subtractionCircuit B p i (x.map f) (y.map f) (f c) =
      ((subtractionCircuit A p i x y c).1.map f, f (subtractionCircuit A p i x y c).2) := by
  induction x with
  | nil => intro i y c; rfl
  | cons xb xs ih =>
    intro i y c
    simp only [List.map_cons, subtractionCircuit, bitSubtractor, headD_map h, ← List.map_tail, ← h.xor, ← h.not, ← h.mul, ih]

theorem boolOrAux_hom (h : IsHom A B f) (p : Path) (a : List α) : ∀ (i : Nat) (b : List α),
    boolOrAux B p i (a.map f) (b.map f) = (boolOrAux A p i a b).map f := by
  induction a with
  | nil => intro i b; cases b <;> rfl
  | cons x xs ih =>
    intro i b
    cases b with
    | nil => rfl
    | cons y ys => simp only [List.map_cons, boolOrAux, orGate, h.xor, h.mul, h.neg, ih]

/-- `bool_and_8_bit`; none of the circuits below is built from it. -/
theorem boolAndAux_hom (h : IsHom A B f) (p : Path) (a : List α) : ∀ (i : Nat) (b : List α),
    boolAndAux B p i (a.map f) (b.map f) = (boolAndAux A p i a b).map f := by
  induction a with
  | nil => intro i b; cases b <;> rfl
  | cons x xs ih =>
    intro i b
    cases b with
    | nil => rfl
    | cons y ys => simp only [List.map_cons, boolAndAux, h.mul, ih]

theorem selectAux_hom (h : IsHom A B f) (p : Path) (c : α) (t : List α) : ∀ (i : Nat) (e : List α),
    selectAux B p (f c) i (t.map f) (e.map f) = (selectAux A p c i t e).map f := by
  induction t with
  | nil => intro i e; cases e <;> rfl
  | cons x xs ih =>
    intro i e
    cases e with
    | nil => rfl
    | cons y ys => simp only [List.map_cons, selectAux, h.xor, h.mul, ih]

theorem integerAdd_hom (h : IsHom A B f) (p : Path) (x y : List α) :
    integerAdd B p (x.map f) (y.map f) = ((integerAdd A p x y).1.map f, f (integerAdd A p x y).2) := by
  rw [integerAdd, ← h.zero, additionCircuit_hom h]; rfl

theorem integerSatAdd_hom (h : IsHom A B f) (p : Path) (x y : List α) :
    integerSatAdd B p (x.map f) (y.map f) = (integerSatAdd A p x y).map f := by
  simp only [integerSatAdd, ← h.zero, additionCircuit_hom h, List.length_map, ← List.map_replicate, boolOrAux_hom h]

theorem integerSatSub_hom (h : IsHom A B f) (p : Path) (x y : List α) :
    integerSatSub B p (x.map f) (y.map f) = (integerSatSub A p x y).map f := by
  simp only [integerSatSub, select, ← h.zero, ← h.not, subtractionCircuit_hom h, List.length_map, ← List.map_replicate,
    selectAux_hom h]

theorem compareGt_hom (h : IsHom A B f) (p : Path) (x y : List α) :
    compareGt B p (x.map f) (y.map f) = f (compareGt A p x y) := by
  rw [compareGt, ← h.zero, subtractionCircuit_hom h]; rfl

theorem compareGeq_hom (h : IsHom A B f) (p : Path) (x y : List α) :
    compareGeq B p (x.map f) (y.map f) = f (compareGeq A p x y) := by
  rw [compareGeq, ← h.one, subtractionCircuit_hom h]; rfl

theorem integerSub_hom (h : IsHom A B f) (p : Path) (x y : List α) :
    integerSub B p (x.map f) (y.map f) = (integerSub A p x y).map f := by
  rw [integerSub, ← h.one, subtractionCircuit_hom h]; rfl

theorem mulRow_hom (h : IsHom A B f) (p : Path) (yb : α) (x : List α) : ∀ j,
    mulRow B p (f yb) j (x.map f) = (mulRow A p yb j x).map f := by
  induction x with
  | nil => intro j; rfl
  | cons a as ih => intro j; simp only [List.map_cons, mulRow, h.mul, ih]

theorem mulStep_hom (h : IsHom A B f) (p : Path) (x : List α) (newLen : Nat) (result : List α) (i : Nat) (yb : α) :
    mulStep B p (x.map f) newLen (result.map f) i (f yb) = (mulStep A p x newLen result i yb).map f := by
  unfold mulStep
  simp only [← List.map_take, ← List.map_drop, mulRow_hom h, integerAdd_hom h, ← List.map_append, List.length_map]
  split
  · rfl
  · split
    · simp only [List.map_append, List.map_cons, List.map_nil]
    · rfl

theorem mulLoop_hom (h : IsHom A B f) (p : Path) (x : List α) (newLen : Nat) (ys : List α) : ∀ (i : Nat) (result : List α),
    mulLoop B p (x.map f) newLen i (ys.map f) (result.map f) = (mulLoop A p x newLen i ys result).map f := by
  induction ys with
  | nil => intro i r; rfl
  | cons y ys ih => intro i r; simp only [List.map_cons, mulLoop, mulStep_hom h, ih]

theorem getLastD_map (y : List α) (d : α) (e : β) (hy : y ≠ []) : (y.map f).getLastD e = f (y.getLastD d) := by
  rw [List.getLastD_eq_getLast?, List.getLastD_eq_getLast?, List.getLast?_map,
    List.getLast?_eq_some_getLast hy]; rfl

theorem integerMul_hom (h : IsHom A B f) (p : Path) (x y : List α) :
    integerMul B p (x.map f) (y.map f) = (integerMul A p x y).map (List.map f) := by
  unfold integerMul
  cases y with
  | nil => rfl
  | cons a as =>
    have hr : resizeLast ((a :: as).map f) (x.length + (as.length + 1)) B.zero
        = (resizeLast (a :: as) (x.length + (as.length + 1)) A.zero).map f := by
      rw [resizeLast, resizeLast, getLastD_map _ A.zero _ (List.cons_ne_nil a as), List.map_append, List.map_take,
        List.map_replicate, List.length_map]
    simp only [List.isEmpty_cons, Bool.false_eq_true, if_false, List.length_cons, List.length_map, Option.map_some, hr]
    exact congrArg some (mulLoop_hom h p x _ _ 0 [])

theorem aggPair_hom (h : IsHom A B f) (p : Path) (w : Nat) (a b : List α) :
    aggPair B p w (a.map f) (b.map f) = (aggPair A p w a b).map f := by
  unfold aggPair
  simp only [List.length_map, integerAdd_hom h, integerSatAdd_hom h]
  split
  · simp only [List.map_append, List.map_cons, List.map_nil]
  · rfl

theorem aggLevel_hom (h : IsHom A B f) (p : Path) (w : Nat) : ∀ (rows : List (List α)) (i : Nat),
    aggLevel B p w i (rows.map (List.map f)) = (aggLevel A p w i rows).map (List.map f)
  | [], _ => rfl
  | [_], _ => rfl
  | a :: b :: rest, i => by
    simp only [List.map_cons, aggLevel, aggPair_hom h, aggLevel_hom h p w rest (i + 1)]

theorem aggLoop_hom (h : IsHom A B f) (p : Path) (w : Nat) : ∀ (fuel depth : Nat) (rows : List (List α)),
    aggLoop B p w fuel depth (rows.map (List.map f)) = (aggLoop A p w fuel depth rows).map (List.map f) := by
  intro fuel
  induction fuel with
  | zero => intro d rows; rfl
  | succ fuel ih =>
    intro d rows
    simp only [aggLoop, List.length_map]
    split
    · rfl
    · rw [aggLevel_hom h, ih]

theorem aggregateValues_hom (h : IsHom A B f) (p : Path) (w : Nat) (rows : List (List α)) :
    aggregateValues B p w (rows.map (List.map f)) = (aggregateValues A p w rows).map f := by
  unfold aggregateValues resizeZero
  rw [List.length_map, aggLoop_hom h, List.map_append, List.map_take, List.map_replicate, h.zero]
  cases aggLoop A p w rows.length 0 rows with
  | nil => rfl
  | cons a as => rw [List.map_cons, List.headD_cons, List.headD_cons, List.length_map]

abbrev CShare := {w : World Bool // Consistent w}

def cAlg (ρ : Path → Masks Bool) : SecureAlg CShare :=
  { zero := ⟨zeroS boolAlg, rfl, rfl, rfl⟩
    one := ⟨knownS boolAlg true, rfl, rfl, rfl⟩
    xor := fun a b => ⟨addS boolAlg a.1 b.1, map2_consistent _ _ _ a.2 b.2⟩
    not := fun a => ⟨notS a.1, map1_consistent _ _ a.2⟩
    neg := fun a => ⟨negS boolAlg a.1, map1_consistent _ _ a.2⟩
    mul := fun p a b => ⟨mulS boolAlg (ρ p) a.1 b.1, mul_consistent _ _ _ _⟩ }

def recB (w : World Bool) : Bool := reconstruct boolAlg w

theorem val_hom (ρ : Path → Masks Bool) : IsHom (cAlg ρ) (shareAlg ρ) Subtype.val :=
  ⟨rfl, rfl, fun _ _ => rfl, fun _ => rfl, fun _ => rfl, fun _ _ _ => rfl⟩

/-- `Boolean` is a ring (xor and the interactive multiplication), complementing all three left components flips the
sum, negation is the identity. -/
theorem rec_hom (ρ : Path → Masks Bool) : IsHom (cAlg ρ) plainAlg (fun s => recB s.1) :=
  ⟨rfl, rfl, fun a b => add_reconstruct a.1 b.1,
    fun a => by simp only [recB, reconstruct, cAlg, notS, map1, boolAlg, plainAlg, Bool.xor_not, Bool.not_xor, Bool.not_not],
    fun _ => rfl, fun p a b => mul_reconstruct_bool (ρ p) a.1 b.1 a.2 b.2⟩

def AllC (l : List (World Bool)) : Prop := ∀ w ∈ l, Consistent w

theorem allC_map {γ : Type} (g : γ → World Bool) (h : ∀ a, Consistent (g a)) (l : List γ) : AllC (l.map g) :=
  List.forall_mem_map.mpr fun a _ => h a

theorem lift_list (l : List (World Bool)) (h : AllC l) : ∃ l' : List CShare, l'.map Subtype.val = l :=
  ⟨l.attachWith _ h, List.attachWith_map_subtype_val h⟩

theorem map_rec_val (l : List CShare) : (l.map Subtype.val).map recB = l.map (fun s => recB s.1) :=
  List.map_map ..

/-- The lifting argument of the header for a circuit from two bit lists to a bit list. -/
theorem lift2 {cS : List (World Bool) → List (World Bool) → List (World Bool)}
    {cC : List CShare → List CShare → List CShare} {cP : List Bool → List Bool → List Bool}
    (h1 : ∀ x y, cS (x.map Subtype.val) (y.map Subtype.val) = (cC x y).map Subtype.val)
    (h2 : ∀ x y, cP (x.map fun s => recB s.1) (y.map fun s => recB s.1) = (cC x y).map fun s => recB s.1)
    (x y : List (World Bool)) (hx : AllC x) (hy : AllC y) :
    AllC (cS x y) ∧ (cS x y).map recB = cP (x.map recB) (y.map recB) := by
  obtain ⟨x', rfl⟩ := lift_list x hx
  obtain ⟨y', rfl⟩ := lift_list y hy
  rw [h1, map_rec_val, map_rec_val, map_rec_val, h2]
  exact ⟨allC_map _ Subtype.property _, rfl⟩

theorem lift2_bit {cS : List (World Bool) → List (World Bool) → World Bool}
    {cC : List CShare → List CShare → CShare} {cP : List Bool → List Bool → Bool}
    (h1 : ∀ x y, cS (x.map Subtype.val) (y.map Subtype.val) = (cC x y).1)
    (h2 : ∀ x y, cP (x.map fun s => recB s.1) (y.map fun s => recB s.1) = recB (cC x y).1)
    (x y : List (World Bool)) (hx : AllC x) (hy : AllC y) :
    Consistent (cS x y) ∧ recB (cS x y) = cP (x.map recB) (y.map recB) := by
  obtain ⟨x', rfl⟩ := lift_list x hx
  obtain ⟨y', rfl⟩ := lift_list y hy
  rw [h1, map_rec_val, map_rec_val, h2]
  exact ⟨(cC x' y').2, rfl⟩

theorem add_shares (ρ : Path → Masks Bool) (p : Path) (x y : List (World Bool)) (hx : AllC x) (hy : AllC y) :
    AllC (integerAdd (shareAlg ρ) p x y).1 ∧ Consistent (integerAdd (shareAlg ρ) p x y).2 ∧
    (integerAdd (shareAlg ρ) p x y).1.map recB = (integerAdd plainAlg p (x.map recB) (y.map recB)).1 ∧
    recB (integerAdd (shareAlg ρ) p x y).2 = (integerAdd plainAlg p (x.map recB) (y.map recB)).2 := by
  obtain ⟨x', rfl⟩ := lift_list x hx
  obtain ⟨y', rfl⟩ := lift_list y hy
  rw [integerAdd_hom (val_hom ρ), map_rec_val, map_rec_val, map_rec_val, integerAdd_hom (rec_hom ρ)]
  exact ⟨allC_map _ Subtype.property _, Subtype.property _, rfl, rfl⟩

theorem gt_shares (ρ : Path → Masks Bool) (p : Path) (x y : List (World Bool)) (hx : AllC x) (hy : AllC y) :
    Consistent (compareGt (shareAlg ρ) p x y) ∧
    recB (compareGt (shareAlg ρ) p x y) = compareGt plainAlg p (x.map recB) (y.map recB) :=
  lift2_bit (compareGt_hom (val_hom ρ) p) (compareGt_hom (rec_hom ρ) p) x y hx hy

theorem geq_shares (ρ : Path → Masks Bool) (p : Path) (x y : List (World Bool)) (hx : AllC x) (hy : AllC y) :
    Consistent (compareGeq (shareAlg ρ) p x y) ∧
    recB (compareGeq (shareAlg ρ) p x y) = compareGeq plainAlg p (x.map recB) (y.map recB) :=
  lift2_bit (compareGeq_hom (val_hom ρ) p) (compareGeq_hom (rec_hom ρ) p) x y hx hy

theorem sub_shares (ρ : Path → Masks Bool) (p : Path) (x y : List (World Bool)) (hx : AllC x) (hy : AllC y) :
    AllC (integerSub (shareAlg ρ) p x y) ∧
    (integerSub (shareAlg ρ) p x y).map recB = integerSub plainAlg p (x.map recB) (y.map recB) :=
  lift2 (integerSub_hom (val_hom ρ) p) (integerSub_hom (rec_hom ρ) p) x y hx hy

theorem sat_add_shares (ρ : Path → Masks Bool) (p : Path) (x y : List (World Bool)) (hx : AllC x) (hy : AllC y) :
    AllC (integerSatAdd (shareAlg ρ) p x y) ∧
    (integerSatAdd (shareAlg ρ) p x y).map recB = integerSatAdd plainAlg p (x.map recB) (y.map recB) :=
  lift2 (integerSatAdd_hom (val_hom ρ) p) (integerSatAdd_hom (rec_hom ρ) p) x y hx hy

theorem sat_sub_shares (ρ : Path → Masks Bool) (p : Path) (x y : List (World Bool)) (hx : AllC x) (hy : AllC y) :
    AllC (integerSatSub (shareAlg ρ) p x y) ∧
    (integerSatSub (shareAlg ρ) p x y).map recB = integerSatSub plainAlg p (x.map recB) (y.map recB) :=
  lift2 (integerSatSub_hom (val_hom ρ) p) (integerSatSub_hom (rec_hom ρ) p) x y hx hy

theorem select_shares (ρ : Path → Masks Bool) (p : Path) (c : World Bool) (t e : List (World Bool))
    (hc : Consistent c) (ht : AllC t) (he : AllC e) :
    AllC (select (shareAlg ρ) p c t e) ∧
    (select (shareAlg ρ) p c t e).map recB = select plainAlg p (recB c) (t.map recB) (e.map recB) :=
  lift2 (fun t e => selectAux_hom (val_hom ρ) p ⟨c, hc⟩ t 0 e) (fun t e => selectAux_hom (rec_hom ρ) p ⟨c, hc⟩ t 0 e)
    t e ht he

theorem or_shares (ρ : Path → Masks Bool) (p : Path) (a b : List (World Bool)) (ha : AllC a) (hb : AllC b) :
    AllC (boolOrAux (shareAlg ρ) p 0 a b) ∧
    (boolOrAux (shareAlg ρ) p 0 a b).map recB = boolOrAux plainAlg p 0 (a.map recB) (b.map recB) :=
  lift2 (fun a b => boolOrAux_hom (val_hom ρ) p a 0 b) (fun a b => boolOrAux_hom (rec_hom ρ) p a 0 b) a b ha hb

theorem mul_shares (ρ : Path → Masks Bool) (p : Path) (x y : List (World Bool)) (hx : AllC x) (hy : AllC y) :
    (∀ r, integerMul (shareAlg ρ) p x y = some r → AllC r) ∧
    (integerMul (shareAlg ρ) p x y).map (List.map recB) = integerMul plainAlg p (x.map recB) (y.map recB) := by
  obtain ⟨x', rfl⟩ := lift_list x hx
  obtain ⟨y', rfl⟩ := lift_list y hy
  rw [integerMul_hom (val_hom ρ), map_rec_val, map_rec_val, integerMul_hom (rec_hom ρ)]
  cases integerMul (cAlg ρ) p x' y' with
  | none => exact ⟨fun _ h => (nomatch h), rfl⟩
  | some r => exact ⟨fun _ h => Option.some.inj h ▸ allC_map _ Subtype.property _, congrArg some (map_rec_val r)⟩

theorem lift_rows (rows : List (List (World Bool))) (h : ∀ r ∈ rows, AllC r) :
    ∃ rows' : List (List CShare), rows'.map (List.map Subtype.val) = rows :=
  ⟨(rows.attachWith _ h).map fun r => r.1.attachWith _ r.2, by
    rw [List.map_map]
    exact (List.map_congr_left fun r _ => List.attachWith_map_subtype_val r.2).trans
      (List.attachWith_map_subtype_val h)⟩

theorem agg_shares (ρ : Path → Masks Bool) (p : Path) (w : Nat) (rows : List (List (World Bool)))
    (h : ∀ r ∈ rows, AllC r) :
    AllC (aggregateValues (shareAlg ρ) p w rows) ∧
    (aggregateValues (shareAlg ρ) p w rows).map recB = aggregateValues plainAlg p w (rows.map (List.map recB)) := by
  obtain ⟨rows', rfl⟩ := lift_rows rows h
  have hm : (rows'.map (List.map Subtype.val)).map (List.map recB) = rows'.map (List.map fun s => recB s.1) := by
    rw [List.map_map]; exact List.map_congr_left fun r _ => map_rec_val r
  rw [aggregateValues_hom (val_hom ρ), hm, aggregateValues_hom (rec_hom ρ)]
  exact ⟨allC_map _ Subtype.property _, map_rec_val _⟩

/-- composition with the plaintext value theorem, as an example. -/
theorem sat_add_shares_value (ρ : Path → Masks Bool) (p : Path) (x y : List (World Bool)) (hx : AllC x) (hy : AllC y) :
    AllC (integerSatAdd (shareAlg ρ) p x y) ∧
    val ((integerSatAdd (shareAlg ρ) p x y).map recB)
      = min (val (x.map recB) + val (y.map recB) % 2 ^ x.length) (2 ^ x.length - 1) := by
  obtain ⟨h1, h2⟩ := sat_add_shares ρ p x y hx hy
  rw [h2, sat_add_value, List.length_map]
  exact ⟨h1, rfl⟩

/-- `AllC` is not vacuous. -/
example : AllC [zeroS boolAlg, knownS boolAlg true] := by
  intro w hw; simp at hw; rcases hw with rfl | rfl <;> exact ⟨rfl, rfl, rfl⟩

end IpaVerif.C07
