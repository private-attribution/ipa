import IpaVerif.Model.Circuits
/-!
# C07 — the circuits on plaintext bits

The circuits of `IpaVerif.Model.Circuits` at `plainAlg`, for bit lists of ARBITRARY lengths `n = |x|`, `m = |y|` (least
significant bit first).  `y' = val y mod 2^n` is `y` truncated / zero-extended to the width of `x`, which is what the
Rust loops do (`x.zip(y.chain(repeat(ZERO)))`).  Core Lean only.

The carry chain is analysed once, for `addition_circuit`; `subtraction_circuit` is the same circuit on the
complemented second operand, and comparison, saturation and `integer_sub` read off the final carry.
-/
namespace IpaVerif.C07
open IpaVerif.Sharing IpaVerif.Circuits

theorem val_lt (l : List Bool) : val l < 2 ^ l.length := by
  induction l with
  | nil => exact Nat.one_pos
  | cons b bs ih =>
    have := Bool.toNat_lt b
    simp only [val, List.length_cons, Nat.pow_succ]; omega

theorem val_singleton (c : Bool) : val [c] = c.toNat := rfl

theorem val_append (a b : List Bool) : val (a ++ b) = val a + 2 ^ a.length * val b := by
  induction a with
  | nil => simp [val]
  | cons x xs ih =>
    simp only [List.cons_append, val, ih, List.length_cons, Nat.pow_succ]
    rw [Nat.mul_add, ← Nat.add_assoc, ← Nat.mul_assoc, Nat.mul_comm 2 (2 ^ _)]

theorem val_replicate_false (k : Nat) : val (List.replicate k false) = 0 := by
  induction k with
  | zero => rfl
  | succ k ih => simp only [List.replicate_succ, val, ih]; rfl

theorem val_replicate_true (k : Nat) : val (List.replicate k true) + 1 = 2 ^ k := by
  induction k with
  | zero => rfl
  | succ k ih =>
    simp only [List.replicate_succ, val, Nat.pow_succ, Bool.toNat_true]
    rw [← ih, Nat.add_one_mul (val _), Nat.mul_comm, Nat.add_comm 1]

theorem val_append_zeros (l : List Bool) (k : Nat) : val (l ++ List.replicate k false) = val l := by
  rw [val_append, val_replicate_false]; rfl

theorem val_map_not (l : List Bool) : val (l.map not) + val l + 1 = 2 ^ l.length := by
  induction l with
  | nil => rfl
  | cons b bs ih =>
    have hb : (!b).toNat + b.toNat = 1 := by cases b <;> rfl
    simp only [List.map_cons, val, List.length_cons, Nat.pow_succ]
    -- pair the two head bits (`hb`) and the two tails (`ih`)
    rw [← ih, Nat.add_add_add_comm, hb, ← Nat.mul_add, Nat.add_one_mul (_ + _), Nat.mul_comm, Nat.add_comm 1]

theorem bit_mod_two (b : Bool) (v : Nat) : (b.toNat + 2 * v) % 2 = b.toNat := by
  rw [Nat.add_mul_mod_self_left, Nat.mod_eq_of_lt (Bool.toNat_lt b)]

theorem bit_div_two (b : Bool) (v : Nat) : (b.toNat + 2 * v) / 2 = v := by
  rw [Nat.add_mul_div_left _ _ Nat.two_pos, Nat.div_eq_of_lt (Bool.toNat_lt b), Nat.zero_add]

theorem val_mod_cons (b : Bool) (bs : List Bool) (n : Nat) :
    val (b :: bs) % 2 ^ (n + 1) = b.toNat + 2 * (val bs % 2 ^ n) := by
  rw [val, Nat.pow_succ, Nat.mul_comm (2 ^ n) 2, Nat.mod_mul, bit_mod_two, bit_div_two]

theorem val_take (x : List Bool) : ∀ k, val (x.take k) = val x % 2 ^ k := by
  induction x with
  | nil => intro k; simp [val]
  | cons b bs ih =>
    intro k
    cases k with
    | zero => simp [val, Nat.mod_one]
    | succ k => rw [List.take_succ_cons, val_mod_cons, val, ih]

theorem val_drop (x : List Bool) : ∀ k, val (x.drop k) = val x / 2 ^ k := by
  induction x with
  | nil => intro k; simp [val]
  | cons b bs ih =>
    intro k
    cases k with
    | zero => simp
    | succ k =>
      rw [List.drop_succ_cons, ih, val, Nat.pow_succ, Nat.mul_comm (2 ^ k) 2, ← Nat.div_div_eq_div_mul, bit_div_two]

theorem bitsOf_length : ∀ (w v : Nat), (bitsOf w v).length = w
  | 0, _ => rfl
  | w + 1, v => congrArg (· + 1) (bitsOf_length w (v / 2))

theorem val_bitsOf : ∀ (w v : Nat), val (bitsOf w v) = v % 2 ^ w
  | 0, v => (Nat.mod_one v).symm
  | w + 1, v => by
    have hb : (v % 2 == 1).toNat = v % 2 := by
      rcases Nat.mod_two_eq_zero_or_one v with h | h <;> rw [h] <;> rfl
    rw [bitsOf, val, val_bitsOf w, hb, Nat.pow_succ, Nat.mul_comm (2 ^ w) 2, Nat.mod_mul]

theorem resizeZero_succ (y : List Bool) (n : Nat) :
    resizeZero plainAlg y (n + 1) = y.headD false :: resizeZero plainAlg y.tail n := by
  cases y <;> simp [resizeZero, List.replicate_succ] <;> rfl

theorem length_resizeZero (y : List Bool) (n : Nat) : (resizeZero plainAlg y n).length = n := by
  induction n generalizing y with
  | zero => simp [resizeZero]
  | succ n ih => rw [resizeZero_succ, List.length_cons, ih]

theorem val_resizeZero (y : List Bool) (n : Nat) : val (resizeZero plainAlg y n) = val y % 2 ^ n := by
  rw [resizeZero, show plainAlg.zero = false from rfl, val_append_zeros, val_take]

theorem split_carry {V P T : Nat} {c : Bool} (hV : V < P) (h : V + P * c.toNat = T) :
    V = T % P ∧ c = decide (P ≤ T) := by
  subst h
  cases c
  · simpa [Nat.mod_eq_of_lt hV] using hV
  · simp [Nat.mod_eq_of_lt hV]

theorem min_add_min (a b M : Nat) : min (min a M + b) M = min (a + b) M := by
  rcases Nat.le_total a M with h | h
  · rw [Nat.min_eq_left h]
  · rw [Nat.min_eq_right h, Nat.min_eq_right (Nat.le_add_right ..),
      Nat.min_eq_right (Nat.le_trans h (Nat.le_add_right ..))]

theorem full_adder (x y c : Bool) :
    (xor (xor x y) c).toNat + 2 * (xor c ((xor x c) && (xor y c))).toNat = x.toNat + y.toNat + c.toNat := by
  cases x <;> cases y <;> cases c <;> rfl

/-- One column of the carry chain: twice the equation of the higher columns (`hv`) plus the full adder (`hfa`). -/
theorem adder_step {s c' a b c V W X Y : Nat} (hfa : s + 2 * c' = a + b + c) (hv : V + W = X + Y + c') :
    s + 2 * V + W * 2 = a + 2 * X + (b + 2 * Y) + c := by
  rw [Nat.add_assoc s, Nat.mul_comm W, ← Nat.mul_add, hv, Nat.mul_add 2 _ c', ← Nat.add_assoc s, Nat.add_right_comm s, hfa,
    Nat.mul_add, Nat.add_right_comm _ c, Nat.add_add_add_comm]

theorem addCirc_cons (p : Path) (i : Nat) (xb : Bool) (xs y : List Bool) (c : Bool) :
    additionCircuit plainAlg p i (xb :: xs) y c =
      (xor (xor xb (y.headD false)) c ::
        (additionCircuit plainAlg p (i + 1) xs y.tail (xor c ((xor xb c) && (xor (y.headD false) c)))).1,
        (additionCircuit plainAlg p (i + 1) xs y.tail (xor c ((xor xb c) && (xor (y.headD false) c)))).2) := rfl

/-- `integer_add` (and `addition_circuit` with any carry-in `c₀`), every `n`, `m`. -/
theorem add_value (p : Path) (i : Nat) (x y : List Bool) (c0 : Bool) :
    (additionCircuit plainAlg p i x y c0).1.length = x.length ∧
    val (additionCircuit plainAlg p i x y c0).1 + 2 ^ x.length * (additionCircuit plainAlg p i x y c0).2.toNat
      = val x + val y % 2 ^ x.length + c0.toNat := by
  induction x generalizing i y c0 with
  | nil => simp [additionCircuit, val, Nat.mod_one]
  | cons xb xs ih =>
    obtain ⟨hl, hv⟩ := ih (i + 1) y.tail (xor c0 ((xor xb c0) && (xor (y.headD false) c0)))
    have hfa := full_adder xb (y.headD false) c0
    have hy : val y % 2 ^ (xb :: xs).length = (y.headD false).toNat + 2 * (val y.tail % 2 ^ xs.length) := by
      cases y with
      | nil => rfl
      | cons yb ys => exact val_mod_cons yb ys _
    rw [addCirc_cons, hy]
    simp only [List.length_cons, val, hl, Nat.pow_succ, Nat.mul_right_comm _ 2, true_and]
    exact adder_step hfa hv

theorem integerAdd_length (p : Path) (x y : List Bool) : (integerAdd plainAlg p x y).1.length = x.length :=
  (add_value p 0 x y false).1

theorem integer_add_value (p : Path) (x y : List Bool) :
    val (integerAdd plainAlg p x y).1 + 2 ^ x.length * (integerAdd plainAlg p x y).2.toNat
      = val x + val y % 2 ^ x.length := (add_value p 0 x y false).2

theorem integer_add_mod (p : Path) (x y : List Bool) :
    val (integerAdd plainAlg p x y).1 = (val x + val y % 2 ^ x.length) % 2 ^ x.length :=
  (split_carry (integerAdd_length p x y ▸ val_lt _) (integer_add_value p x y)).1

theorem integer_add_exact (p : Path) (x y : List Bool) (h : val x + val y < 2 ^ x.length) :
    val (integerAdd plainAlg p x y).1 = val x + val y := by
  rw [integer_add_mod, Nat.mod_eq_of_lt (Nat.lt_of_le_of_lt (Nat.le_add_left ..) h), Nat.mod_eq_of_lt h]

/-- documented corollary: if `y` fits in `|x|` bits the result is the `(n+1)`-bit sum. -/
theorem integer_add_value_fits (p : Path) (x y : List Bool) (h : val y < 2 ^ x.length) :
    val (integerAdd plainAlg p x y).1 + 2 ^ x.length * (integerAdd plainAlg p x y).2.toNat = val x + val y := by
  rw [integer_add_value, Nat.mod_eq_of_lt h]

/-- `integer_add_value_fits` is not vacuous. -/
example : val [true, true] < 2 ^ [false, true, true].length := by decide

/-- Subtraction is addition of the complement of `y` (resized to the width of `x`). -/
theorem subCirc_eq_addCirc (p : Path) (i : Nat) (x y : List Bool) (c : Bool) :
    subtractionCircuit plainAlg p i x y c
      = additionCircuit plainAlg p i x ((resizeZero plainAlg y x.length).map not) c := by
  induction x generalizing i y c with
  | nil => rfl
  | cons xb xs ih =>
    rw [List.length_cons, resizeZero_succ, List.map_cons, addCirc_cons, List.headD_cons, List.tail_cons, ← ih,
      Bool.xor_assoc, Bool.not_xor]
    rfl

/-- `subtraction_circuit` with any carry-in `c₀`, every `n`, `m`: it computes `x + (2^n − 1 − y') + c₀`. -/
theorem sub_value (p : Path) (i : Nat) (x y : List Bool) (c0 : Bool) :
    (subtractionCircuit plainAlg p i x y c0).1.length = x.length ∧
    val (subtractionCircuit plainAlg p i x y c0).1 + 2 ^ x.length * (subtractionCircuit plainAlg p i x y c0).2.toNat
      + val y % 2 ^ x.length + 1 = val x + 2 ^ x.length + c0.toNat := by
  have hc := val_map_not (resizeZero plainAlg y x.length)
  rw [length_resizeZero, val_resizeZero] at hc
  have hlt := Nat.lt_of_lt_of_eq (Nat.lt_succ_of_le (Nat.le_add_right ..)) hc
  rw [subCirc_eq_addCirc]
  refine (add_value p i x _ c0).imp id fun hv => ?_
  rw [Nat.mod_eq_of_lt hlt] at hv
  -- move `c₀` to the end and bracket `¬y' + y' + 1`, which is `2^n` by `hc`
  rw [hv, Nat.add_right_comm _ c0.toNat, Nat.add_right_comm _ c0.toNat, Nat.add_assoc (val x), Nat.add_assoc (val x), hc]

theorem borrow_iff {X Y P c : Nat} (hY : Y < P) : P ≤ X + P + c - (Y + 1) ↔ Y + 1 ≤ X + c := by
  have h : Y + 1 ≤ X + P + c := Nat.le_trans hY (Nat.le_trans (Nat.le_add_left P X) (Nat.le_add_right ..))
  rw [Nat.le_sub_iff_add_le h, Nat.add_right_comm X, Nat.add_comm (X + c), Nat.add_le_add_iff_left]

theorem sub_split (p : Path) (i : Nat) (x y : List Bool) (c0 : Bool) :
    val (subtractionCircuit plainAlg p i x y c0).1
      = (val x + 2 ^ x.length + c0.toNat - (val y % 2 ^ x.length + 1)) % 2 ^ x.length ∧
    (subtractionCircuit plainAlg p i x y c0).2 = decide (val y % 2 ^ x.length + 1 ≤ val x + c0.toNat) := by
  obtain ⟨hl, hv⟩ := sub_value p i x y c0
  have hlt := hl ▸ val_lt (subtractionCircuit plainAlg p i x y c0).1
  have hy := Nat.mod_lt (val y) (Nat.two_pow_pos x.length)
  obtain ⟨h1, h2⟩ := split_carry hlt (Nat.eq_sub_of_add_eq ((Nat.add_assoc ..).symm.trans hv))
  exact ⟨h1, h2.trans (decide_eq_decide.mpr (borrow_iff hy))⟩

/-- `integer_sub` ("it computes `(x+2^|x|)−y`, considering only the least-significant `length(x)` bits of `y`"). -/
theorem integer_sub_value (p : Path) (x y : List Bool) :
    val (integerSub plainAlg p x y) = (val x + 2 ^ x.length - val y % 2 ^ x.length) % 2 ^ x.length :=
  (sub_split p 0 x y true).1.trans (by rw [Bool.toNat_true, Nat.add_sub_add_right])

theorem geq_value (p : Path) (x y : List Bool) :
    compareGeq plainAlg p x y = decide (val x ≥ val y % 2 ^ x.length) :=
  (sub_split p 0 x y true).2.trans (decide_eq_decide.mpr (by rw [Bool.toNat_true]; exact Nat.succ_le_succ_iff))

theorem gt_value (p : Path) (x y : List Bool) :
    compareGt plainAlg p x y = decide (val x > val y % 2 ^ x.length) :=
  (sub_split p 0 x y false).2

/-- documented corollaries ("Outputs x>=y / x>y for length(x) >= log2(y)"). -/
theorem geq_value_fits (p : Path) (x y : List Bool) (h : val y < 2 ^ x.length) :
    compareGeq plainAlg p x y = decide (val x ≥ val y) := by rw [geq_value, Nat.mod_eq_of_lt h]
theorem gt_value_fits (p : Path) (x y : List Bool) (h : val y < 2 ^ x.length) :
    compareGt plainAlg p x y = decide (val x > val y) := by rw [gt_value, Nat.mod_eq_of_lt h]

/-- `bool_or` (equal lengths; otherwise the code panics = `none`). -/
theorem or_value (p : Path) : ∀ (i : Nat) (a b : List Bool),
    boolOrAux plainAlg p i a b = List.zipWith (· || ·) a b := by
  intro i a
  induction a generalizing i with
  | nil => intro b; cases b <;> rfl
  | cons x xs ih =>
    intro b
    cases b with
    | nil => rfl
    | cons y ys =>
      rw [boolOrAux, List.zipWith_cons_cons, ih]
      cases x <;> cases y <;> rfl

theorem or_panics_iff (p : Path) (a b : List Bool) : boolOr plainAlg p a b = none ↔ a.length ≠ b.length := by
  unfold boolOr; split <;> simp_all

theorem and_value (p : Path) : ∀ (i : Nat) (a b : List Bool),
    boolAndAux plainAlg p i a b = List.zipWith (· && ·) a b := by
  intro i a
  induction a generalizing i with
  | nil => intro b; cases b <;> rfl
  | cons x xs ih =>
    intro b
    cases b with
    | nil => rfl
    | cons y ys => rw [boolAndAux, List.zipWith_cons_cons, ih]; rfl

theorem select_value (p : Path) (c : Bool) : ∀ (i : Nat) (t f : List Bool), t.length = f.length →
    selectAux plainAlg p c i t f = if c then t else f := by
  intro i t
  induction t generalizing i with
  | nil => intro f h; rw [List.eq_nil_of_length_eq_zero h.symm]; cases c <;> rfl
  | cons a as ih =>
    intro f h
    cases f with
    | nil => cases h
    | cons b bs =>
      rw [selectAux, ih (i + 1) bs (Nat.succ.inj h)]
      cases c <;> cases a <;> cases b <;> rfl

/-- `select_value` is not vacuous. -/
example : [true, false].length = [false, false].length := rfl

theorem zipWith_or_replicate (l : List Bool) (c : Bool) :
    List.zipWith (· || ·) l (List.replicate l.length c) = if c then List.replicate l.length true else l := by
  induction l with
  | nil => cases c <;> rfl
  | cons a as ih =>
    rw [List.length_cons, List.replicate_succ, List.zipWith_cons_cons, ih]
    cases c <;> simp [List.replicate_succ]

theorem integerSatAdd_plain (p : Path) (x y : List Bool) :
    integerSatAdd plainAlg p x y =
      if (additionCircuit plainAlg (p ++ [stepAdd]) 0 x y false).2 then List.replicate x.length true
      else (additionCircuit plainAlg (p ++ [stepAdd]) 0 x y false).1 := by
  rw [integerSatAdd, or_value, ← (add_value (p ++ [stepAdd]) 0 x y false).1]
  exact zipWith_or_replicate _ _

theorem satAdd_length (p : Path) (x y : List Bool) : (integerSatAdd plainAlg p x y).length = x.length := by
  rw [integerSatAdd_plain]
  split
  · exact List.length_replicate
  · exact (add_value _ 0 x y false).1

theorem sat_add_value (p : Path) (x y : List Bool) :
    val (integerSatAdd plainAlg p x y) = min (val x + val y % 2 ^ x.length) (2 ^ x.length - 1) := by
  obtain ⟨hl, hv⟩ := add_value (p ++ [stepAdd]) 0 x y false
  rw [Bool.toNat_false, Nat.add_zero] at hv
  obtain ⟨h1, h2⟩ := split_carry (hl ▸ val_lt _) hv
  have h3 := val_replicate_true x.length
  rw [integerSatAdd_plain, h2]
  by_cases h : 2 ^ x.length ≤ val x + val y % 2 ^ x.length
  · rw [decide_eq_true h, if_pos rfl, Nat.min_eq_right (Nat.le_trans (Nat.sub_le ..) h)]
    exact Nat.eq_sub_of_add_eq h3
  · have h := Nat.lt_of_not_le h
    rw [decide_eq_false (Nat.not_le_of_lt h), if_neg (by decide), h1, Nat.mod_eq_of_lt h,
      Nat.min_eq_left (Nat.le_sub_one_of_lt h)]

theorem integerSatSub_plain (p : Path) (x y : List Bool) :
    integerSatSub plainAlg p x y =
      if (subtractionCircuit plainAlg (p ++ [stepSubtract]) 0 x y true).2
      then (subtractionCircuit plainAlg (p ++ [stepSubtract]) 0 x y true).1 else List.replicate x.length false :=
  select_value _ _ 0 _ _ (by rw [List.length_replicate]; exact (sub_value _ 0 x y true).1)

theorem sat_sub_value (p : Path) (x y : List Bool) :
    val (integerSatSub plainAlg p x y) = val x - val y % 2 ^ x.length := by
  obtain ⟨h1, h2⟩ := sub_split (p ++ [stepSubtract]) 0 x y true
  rw [integerSatSub_plain, h2, Bool.toNat_true]
  by_cases h : val y % 2 ^ x.length + 1 ≤ val x + 1
  · rw [decide_eq_true h, if_pos rfl, h1, Bool.toNat_true, Nat.add_sub_add_right,
      Nat.sub_add_comm (Nat.le_of_succ_le_succ h), Nat.add_mod_right,
      Nat.mod_eq_of_lt (Nat.lt_of_le_of_lt (Nat.sub_le ..) (val_lt x))]
  · rw [decide_eq_false h, if_neg (by decide), val_replicate_false]
    exact (Nat.sub_eq_zero_of_le (Nat.le_of_lt (Nat.lt_of_succ_lt_succ (Nat.lt_of_not_le h)))).symm

end IpaVerif.C07
