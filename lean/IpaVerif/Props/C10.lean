import IpaVerif.Model.ReportWire
import IpaVerif.Proofs.ReportWireLemmas
/-!
# C10 — encrypted reports decrypt only if untouched; bad input never crashes a helper

Theorems about `IpaVerif.Model.ReportWire` (the model of `report/hybrid.rs`, `report/hybrid_info.rs`
over an abstract HPKE). The layout constants are the ones regenerated from the sources
(`IpaVerif.Generated.ReportLayout`, used through `offsets`). HPKE enters only through hypotheses
(`OpenLen`, `OpenOnlySealed`, `OpenSeal`, `SealLen`), instantiated by `tableAEAD_ideal` and `toy_laws`.
-/
namespace IpaVerif.C10
open IpaVerif.ReportWire IpaVerif.Generated

/-- `open_in_place` works in place: the plaintext is the ciphertext buffer minus the tag. -/
def OpenLen {K : Type} (A : AEAD K) (tag : Nat) : Prop :=
  ∀ k enc ct info m, A.open' k enc ct info = some m → m.length + tag = ct.length

/-- Ideal authenticated encryption relative to the list of everything the honest sender sealed:
`open` succeeds only on a logged (key, info, plaintext, encapsulated key, ciphertext‖tag). -/
def OpenOnlySealed {K : Type} (A : AEAD K) (log : List (K × Bytes × Bytes × Bytes × Bytes)) : Prop :=
  ∀ k enc ct info m, A.open' k enc ct info = some m → (k, info, m, enc, ct) ∈ log

/-- HPKE correctness: what was sealed to `k` under `info` opens under `k` and `info`. -/
def OpenSeal {K : Type} (A : AEAD K) (S : Sealer K) : Prop :=
  ∀ k info m r, A.open' k (S.sealFn k info m r).1 (S.sealFn k info m r).2 info = some m

/-- sizes of the sealed parts: encapsulated key, and plaintext + tag -/
def SealLen {K : Type} (S : Sealer K) (L : Layout) : Prop :=
  ∀ k info m r, (S.sealFn k info m r).1.length = L.encap ∧ (S.sealFn k info m r).2.length = m.length + L.tag

/-- `from_bytes ∘ to_bytes = id` for conversions — under `0 ∉ site`, the hypothesis the proof forces (F7). -/
theorem info_roundtrip (c : ConvInfo) (hw : c.Wf) (hn : 0 ∉ c.site) (hu : utf8Valid c.site = true) :
    ConvInfo.fromBytes c.toBytes = .ok c := by
  obtain ⟨h1, h2, h3⟩ := hw
  obtain ⟨p0, p1, p2, p3⟩ := conv_tail_parse c.keyId c.ts c.eps c.sens h1 h2 h3
  simp only [List.append_assoc] at p0 p1 p2 p3
  simp only [ConvInfo.fromBytes, ConvInfo.toBytes, ConvInfo.tail, splitNul_append hn, hu]
  simp [convInfoTail_eq, h1, h2, h3, p0, p1, p2, p3]

/-- What `HybridConversionInfo::new` accepts survives `to_bytes → from_bytes` (this is false without
the NUL check in `new`, F7: `info_roundtrip_needs_nonul`). -/
theorem new_roundtrip {k : Nat} {site ts eps sens : Bytes} {c : ConvInfo}
    (h : ConvInfo.new k site ts eps sens = .ok c) (h1 : ts.length = 8) (h2 : eps.length = 8)
    (h3 : sens.length = 8) : ConvInfo.fromBytes c.toBytes = .ok c := by
  unfold ConvInfo.new at h
  split at h
  · rename_i hc
    simp at h; subst h
    simp at hc
    exact info_roundtrip _ ⟨h1, h2, h3⟩ hc.2 (utf8Valid_ascii hc.1)
  · simp at h

/-- F7 witness: with a NUL in the site the wire form parses to something else. -/
def nulSite : ConvInfo :=
  { keyId := 0, site := [0], ts := List.replicate 8 0, eps := List.replicate 8 0, sens := List.replicate 8 0 }

theorem info_roundtrip_needs_nonul :
    nulSite.Wf ∧ utf8Valid nulSite.site = true ∧ ConvInfo.fromBytes nulSite.toBytes ≠ .ok nulSite := by
  refine ⟨⟨by decide, by decide, by decide⟩, by decide, by decide⟩

theorem convInfo_cases (b : Bytes) : (∃ e, ConvInfo.fromBytes b = .err e) ∨
    ∃ c : ConvInfo, ConvInfo.fromBytes b = .ok c ∧ c.toBytes = b ∧ c.Wf ∧ 0 ∉ c.site := by
  generalize ho : ConvInfo.fromBytes b = o
  unfold ConvInfo.fromBytes at ho
  split at ho
  · exact .inl ⟨_, ho.symm⟩
  next site rest hs =>
  obtain ⟨rfl, hn⟩ := splitNul_some hs
  split at ho
  · exact .inl ⟨_, ho.symm⟩
  split at ho
  · exact .inl ⟨_, ho.symm⟩
  next hl =>
  obtain ⟨k, ts, eps, sens, rfl, hw⟩ := exists_conv_tail (rest := rest) (by
    simp only [List.length_append, List.length_cons] at hl; omega)
  obtain ⟨p0, p1, p2, p3⟩ := conv_tail_parse k ts eps sens hw.1 hw.2.1 hw.2.2
  simp only [p0, p1, p2, p3, bind_eq, bind_ok, pure_eq] at ho
  exact .inr ⟨_, ho.symm, rfl, hw, hn⟩

/-- The parser is canonical: accepted bytes are exactly the serialization of the result (no byte of the
info is ignored), the result is well-formed and its site is NUL-free. -/
theorem info_canonical {b : Bytes} {c : ConvInfo} (h : ConvInfo.fromBytes b = .ok c) :
    c.toBytes = b ∧ c.Wf ∧ 0 ∉ c.site := by
  rcases convInfo_cases b with ⟨e, he⟩ | ⟨c', hc, hi⟩
  · rw [he] at h; cases h
  · rw [hc] at h; cases h
    exact hi

/-- `byte_len()` equals `to_bytes().len()` (the `debug_assert` in `byte_len` never fires). -/
theorem byteLen_eq (c : ConvInfo) (hw : c.Wf) : c.byteLen = c.toBytes.length := by
  rw [ConvInfo.byteLen, ConvInfo.toBytes, List.length_append, List.length_cons, conv_tail_length c hw, convInfoTail_eq]
  omega

/-- The HPKE info string determines the metadata: equal `to_enc_bytes` ⇒ equal key id, site, timestamp,
ε, sensitivity *and* event kind (an impression never shares its info string with a conversion). -/
theorem info_injective (i1 i2 : Info) (h1 : i1.Wf) (h2 : i2.Wf) (h : i1.toEncBytes = i2.toEncBytes) :
    i1 = i2 := by
  -- after the common prefix an impression's info string has one byte, a conversion's at least 25
  have hne : ∀ (a : ImpInfo) (c : ConvInfo), c.Wf → a.toEncBytes ≠ c.toEncBytes := fun a c hc h => by
    have := congrArg List.length h
    simp [ImpInfo.toEncBytes, ConvInfo.toEncBytes, conv_tail_length c hc, convInfoTail_eq] at this
  rcases i1 with ⟨⟨a⟩⟩ | ⟨k, s, ts, eps, sens⟩ <;> rcases i2 with ⟨⟨b⟩⟩ | ⟨k', s', ts', eps', sens'⟩
  · cases List.append_cancel_left h; rfl
  · exact absurd h (hne _ _ h2)
  · exact absurd h.symm (hne _ _ h1)
  · simp only [Info.toEncBytes, ConvInfo.toEncBytes, List.append_assoc] at h
    obtain ⟨rfl, ht⟩ := List.append_inj' (List.append_cancel_left h)
      ((conv_tail_length _ h1).trans (conv_tail_length _ h2).symm)
    obtain ⟨rfl, ht⟩ := List.cons.inj ht
    obtain ⟨ht, rfl⟩ := List.append_inj' ht (h1.2.2.trans h2.2.2.symm)
    obtain ⟨rfl, rfl⟩ := List.append_inj ht (h1.1.trans h2.1.symm)
    rfl

theorem parseInfo_cases (k : Kind) (b : Bytes) : (∃ e, parseInfo k b = .err e) ∨
    ∃ info : Info, parseInfo k b = .ok info ∧ info.kind = k ∧ info.toBytes = b ∧ info.Wf := by
  cases k with
  | imp =>
    match b with
    | [x] => exact .inr ⟨.imp ⟨x⟩, rfl, rfl, rfl, trivial⟩
    | [] | _ :: _ :: _ => exact .inl ⟨_, rfl⟩
  | conv =>
    rcases convInfo_cases b with ⟨e, h⟩ | ⟨c, h, hb, hw, -⟩
    · exact .inl ⟨_, by rw [parseInfo, h]; rfl⟩
    · exact .inr ⟨.conv c, by rw [parseInfo, h]; rfl, rfl, hb, hw⟩

theorem parseInfo_ok {k : Kind} {b : Bytes} {info : Info} (h : parseInfo k b = .ok info) :
    info.kind = k ∧ info.toBytes = b ∧ info.Wf := by
  rcases parseInfo_cases k b with ⟨e, he⟩ | ⟨info', h', hi⟩
  · rw [he] at h; cases h
  · rw [h'] at h; cases h
    exact hi

theorem fromBytes_cases (L : Layout) (bytes : Bytes) : (∃ e, fromBytes L bytes = .err e) ∨
    ∃ k data, bytes = evtByte k :: data ∧ infoOff L k ≤ data.length ∧ fromBytes L bytes = .ok ⟨k, data⟩ := by
  match bytes with
  | [] => exact .inl ⟨_, rfl⟩
  | e :: data =>
    by_cases h : ∃ k, evtByte k = e
    · obtain ⟨k, rfl⟩ := h
      rw [fromBytes_evt, fromBytesKind]
      split
      · exact .inl ⟨_, rfl⟩
      · exact .inr ⟨k, data, rfl, Nat.le_of_not_lt ‹_›, rfl⟩
    · refine .inl ⟨.unknownEventType e, ?_⟩
      rw [fromBytes, if_neg fun he => h ⟨.imp, he.symm⟩, if_neg fun he => h ⟨.conv, he.symm⟩]

/-- A record of kind `k` that passed `from_bytes` is the concatenation of its accessor slices, the key
identifier byte and the info bytes: no byte lies outside the fields. -/
theorem data_decomp (L : Layout) (k : Kind) (d : Bytes) (kid : Nat) (h : infoOff L k ≤ d.length)
    (hk : d[keyIdOff L k]? = some kid) :
    d = fld d (encapMkOff L k) (ctMkOff L k) ++ fld d (ctMkOff L k) (encapBttOff L k) ++
        fld d (encapBttOff L k) (ctBttOff L k) ++ fld d (ctBttOff L k) (keyIdOff L k) ++ [kid] ++
        d.drop (infoOff L k) := by
  have o := offsets_step L k
  have hkid : fld d (keyIdOff L k) (infoOff L k) = [kid] := by
    obtain ⟨hlt, hv⟩ := List.getElem?_eq_some_iff.mp hk
    rw [o.info, fld, Nat.add_sub_cancel_left, List.drop_eq_getElem_cons hlt, hv]
    rfl
  rw [← hkid, ← fld_drop (d := d) (a := infoOff L k), o.encapMk,
    fld_append (Nat.zero_le _) o.ctMk_le,
    fld_append (Nat.zero_le _) o.encapBtt_le,
    fld_append (Nat.zero_le _) o.ctBtt_le,
    fld_append (Nat.zero_le _) (o.info ▸ Nat.le_succ _), fld_append (Nat.zero_le _) h]
  exact (fld_all d).symm

theorem exists_parts {L : Layout} {k : Kind} {d : Bytes} (h : infoOff L k ≤ d.length) :
    ∃ e1 c1 e2 c2 kid ib, d = e1 ++ c1 ++ e2 ++ c2 ++ [kid] ++ ib ∧ Sized L k e1 c1 e2 c2 := by
  have o := offsets_step L k
  have b4 : keyIdOff L k < d.length := by rwa [o.info] at h
  have b3 := Nat.le_trans o.ctBtt_le (Nat.le_of_lt b4)
  have b2 := Nat.le_trans o.encapBtt_le b3
  have b1 := Nat.le_trans o.ctMk_le b2
  refine ⟨_, _, _, _, _, _, data_decomp L k d _ h (List.getElem?_eq_getElem b4), ?_, ?_, ?_, ?_⟩
  · rw [fld_length b1, o.encapMk, o.ctMk]; rfl
  · rw [fld_length b2, o.encapBtt, Nat.add_sub_cancel_left]
  · rw [fld_length b3, o.ctBtt, Nat.add_sub_cancel_left]
  · rw [fld_length (Nat.le_of_lt b4), o.keyId, Nat.add_sub_cancel_left]

/-- For *every* byte string, key registry and (in-place) AEAD, neither the parser nor the
decryptor panics: the outcome is a report or an `InvalidHybridReportError`. -/
theorem parse_total {K : Type} (A : AEAD K) (reg : Nat → Option K) (L : Layout) (hA : OpenLen A L.tag)
    (bytes : Bytes) (t : String) :
    fromBytes L bytes ≠ .panic t ∧ process A reg L bytes ≠ .panic t := by
  rcases fromBytes_cases L bytes with ⟨e, h⟩ | ⟨k, data, rfl, hl, h⟩
  · exact ⟨by rw [h]; nofun, by rw [process, h]; nofun⟩
  obtain ⟨e1, c1, e2, c2, kid, ib, rfl, hs⟩ := exists_parts hl
  refine ⟨by rw [h]; nofun, ?_⟩
  rw [process_parts A reg hs]
  refine orErr_ne_panic fun sk _ => ?_
  rcases parseInfo_cases k ib with ⟨e, h⟩ | ⟨info, h, -⟩ <;> rw [h]
  · nofun
  refine orErr_ne_panic fun m hm => orErr_ne_panic fun b hb => ?_
  -- in-place opening returns buffers of the sizes `GenericArray::from_slice` expects
  have lm : m.length = L.mkSz := Nat.add_right_cancel ((hA _ _ _ _ _ hm).trans hs.c1)
  have lb : b.length = L.btt k := Nat.add_right_cancel ((hA _ _ _ _ _ hb).trans hs.c2)
  rw [fromSlice_ok lm, bind_ok, fromSlice_ok lb, bind_ok]
  split <;> nofun

/-- the record `HybridReport::encrypt_to` writes, given the two sealed parts -/
def record (rep : PlainReport) (keyId : Nat) (e1 c1 e2 c2 : Bytes) : Bytes :=
  evtByte rep.info.kind :: (e1 ++ c1 ++ e2 ++ c2 ++ [keyId] ++ rep.info.toBytes)

/-- A helper accepts exactly the records of the report it returns: two sealed parts of the right sizes that
open, under the registered key and the report's info string, to its two plaintexts, followed by the key
identifier and the serialized metadata. -/
theorem process_eq_ok_iff {K : Type} {A : AEAD K} {reg : Nat → Option K} {L : Layout} {R : Bytes}
    {rep : PlainReport} :
    process A reg L R = .ok rep ↔ ∃ kid sk e1 c1 e2 c2, R = record rep kid e1 c1 e2 c2 ∧
      Sized L rep.info.kind e1 c1 e2 c2 ∧ reg kid = some sk ∧
      parseInfo rep.info.kind rep.info.toBytes = .ok rep.info ∧
      A.open' sk e1 c1 rep.info.toEncBytes = some rep.matchKey ∧
      A.open' sk e2 c2 rep.info.toEncBytes = some rep.btt ∧
      rep.matchKey.length = L.mkSz ∧ rep.btt.length = L.btt rep.info.kind ∧
      validShare (L.bttBits rep.info.kind) rep.btt = true := by
  constructor
  · intro h
    rcases fromBytes_cases L R with ⟨e, he⟩ | ⟨k, data, rfl, hl, -⟩
    · rw [process, he] at h; cases h
    obtain ⟨e1, c1, e2, c2, kid, ib, rfl, hs⟩ := exists_parts hl
    rw [process_parts A reg hs] at h
    obtain ⟨sk, hr, h⟩ := orErr_eq_ok h
    obtain ⟨info, hpi, h⟩ := bind_eq_ok h
    obtain ⟨m, hm, h⟩ := orErr_eq_ok h
    obtain ⟨b, hb, h⟩ := orErr_eq_ok h
    obtain ⟨m', hm', h⟩ := bind_eq_ok h
    obtain ⟨b', hb', hv⟩ := bind_eq_ok h
    obtain ⟨lm, rfl⟩ := fromSlice_eq_ok hm'
    obtain ⟨lb, rfl⟩ := fromSlice_eq_ok hb'
    obtain ⟨rfl, rfl, -⟩ := parseInfo_ok hpi
    split at hv <;> cases hv
    exact ⟨kid, sk, e1, c1, e2, c2, rfl, hs, hr, hpi, hm, hb, lm, lb, ‹_›⟩
  · rintro ⟨kid, sk, e1, c1, e2, c2, rfl, hs, hr, hpi, hm, hb, lm, lb, hv⟩
    rw [record, process_parts A reg hs]
    simp only [hr, hpi, bind_ok, hm, hb, fromSlice_ok lm, fromSlice_ok lb, hv, if_true, orErr]

/-- Shape of an honestly produced record: sizes of the sealed parts, well-formed metadata. -/
structure Honest (L : Layout) (rep : PlainReport) (e1 c1 e2 c2 : Bytes) : Prop where
  e1len : e1.length = L.encap
  c1len : c1.length = L.mkSz + L.tag
  e2len : e2.length = L.encap
  c2len : c2.length = L.btt rep.info.kind + L.tag
  wf : rep.info.Wf

theorem evtByte_inj {a b : Kind} (h : evtByte a = evtByte b) : a = b := by
  cases a <;> cases b <;> simp_all [evtByte, Report.evtImpression, Report.evtConversion]

/-- Let `A` be an ideal AEAD whose sealing log consists of exactly the two
parts of one honest record (match key and breakdown key / value, both sealed to key `k0` under the
report's info string). If *any* byte string `R'` is accepted by a helper — whatever its key registry —
then the report it yields is the original one, and if the registry holds `k0` under a single key id then
`R'` *is* the original record. The side condition `mkSz ≠ bk, v` excludes the swap of the two sealed
parts when both plaintexts have the same size (see `swap_needs_sizes`). -/
theorem tamper_fails {K : Type} (A : AEAD K) (reg : Nat → Option K) (L : Layout) (k0 : K) (keyId : Nat)
    (rep : PlainReport) (e1 c1 e2 c2 : Bytes) (hH : Honest L rep e1 c1 e2 c2)
    (hIdeal : OpenOnlySealed A [(k0, rep.info.toEncBytes, rep.matchKey, e1, c1),
                                (k0, rep.info.toEncBytes, rep.btt, e2, c2)])
    (hSizes : L.mkSz ≠ L.bk ∧ L.mkSz ≠ L.v)
    (R' : Bytes) (rep' : PlainReport) (h : process A reg L R' = .ok rep') :
    rep' = rep ∧ ((∀ kid, reg kid = some k0 → kid = keyId) → R' = record rep keyId e1 c1 e2 c2) := by
  obtain ⟨kid, sk, e1', c1', e2', c2', rfl, hs, hreg, hpi, hm, hb, -⟩ := process_eq_ok_iff.mp h
  have m1 := hIdeal _ _ _ _ _ hm
  have m2 := hIdeal _ _ _ _ _ hb
  simp only [List.mem_cons, Prod.mk.injEq, List.not_mem_nil, or_false] at m1 m2
  have hbtt : ∀ k : Kind, L.mkSz ≠ L.btt k := fun | .imp => hSizes.1 | .conv => hSizes.2
  -- the match-key part can only be the first logged item, the other part only the second: a ciphertext
  -- of `mkSz + tag` bytes is not one of `btt + tag` bytes
  obtain ⟨hsk, hie, hmk, rfl, rfl⟩ := m1.resolve_right fun m => hbtt rep.info.kind
    (Nat.add_right_cancel (hs.c1.symm.trans ((congrArg List.length m.2.2.2.2).trans hH.c2len)))
  obtain ⟨-, -, hbt, rfl, rfl⟩ := m2.resolve_left fun m => hbtt rep'.info.kind
    (Nat.add_right_cancel (hH.c1len.symm.trans ((congrArg List.length m.2.2.2.2).symm.trans hs.c2)))
  have hinfo := info_injective _ _ (parseInfo_ok hpi).2.2 hH.wf hie
  have hrep : rep' = rep := show (⟨rep'.matchKey, rep'.btt, rep'.info⟩ : PlainReport) = rep by rw [hmk, hbt, hinfo]
  refine ⟨hrep, fun hinj => ?_⟩
  rw [hinj kid (hreg.trans (congrArg some hsk)), record, record, hinfo]

theorem err_of_not_ok {K : Type} {A : AEAD K} {reg : Nat → Option K} {L : Layout} (hLen : OpenLen A L.tag)
    {R' : Bytes} (h : ∀ rep', process A reg L R' ≠ .ok rep') : ∃ e, process A reg L R' = .err e := by
  cases hp : process A reg L R' with
  | ok rep' => exact absurd hp (h rep')
  | err e => exact ⟨e, rfl⟩
  | panic t => exact absurd hp (parse_total A reg L hLen R' t).2

/-- Changing the record in any way yields an **error** (not a panic, not another report). -/
theorem tamper_fails_err {K : Type} (A : AEAD K) (reg : Nat → Option K) (L : Layout) (k0 : K) (keyId : Nat)
    (rep : PlainReport) (e1 c1 e2 c2 : Bytes) (hH : Honest L rep e1 c1 e2 c2)
    (hIdeal : OpenOnlySealed A [(k0, rep.info.toEncBytes, rep.matchKey, e1, c1),
                                (k0, rep.info.toEncBytes, rep.btt, e2, c2)])
    (hSizes : L.mkSz ≠ L.bk ∧ L.mkSz ≠ L.v) (hLen : OpenLen A L.tag)
    (hinj : ∀ kid, reg kid = some k0 → kid = keyId)
    (R' : Bytes) (hne : R' ≠ record rep keyId e1 c1 e2 c2) :
    ∃ e, process A reg L R' = .err e := by
  exact err_of_not_ok hLen fun rep' hp =>
    hne ((tamper_fails A reg L k0 keyId rep e1 c1 e2 c2 hH hIdeal hSizes R' rep' hp).2 hinj)

/-- flip bit `bit` (0 = least significant bit of byte 0) -/
def flipBit (r : Bytes) (bit : Nat) : Bytes :=
  r.mapIdx (fun i b => if i = bit / 8 then b ^^^ (1 <<< (bit % 8)) else b)

theorem xor_eq_self_iff {a m : Nat} : a ^^^ m = a ↔ m = 0 := by
  refine ⟨fun h => ?_, fun h => by rw [h, Nat.xor_zero]⟩
  rw [← Nat.zero_xor m, ← Nat.xor_self a, Nat.xor_assoc, h]

theorem flipBit_ne (r : Bytes) (bit : Nat) (h : bit < 8 * r.length) : flipBit r bit ≠ r := by
  intro heq
  have hi : bit / 8 < r.length := Nat.div_lt_of_lt_mul h
  have hb : r[bit / 8] ^^^ 1 <<< (bit % 8) = r[bit / 8] := by
    simpa [flipBit, hi] using congrArg (·[bit / 8]?) heq
  exact absurd (xor_eq_self_iff.mp hb) (Nat.one_shiftLeft _ ▸ Nat.ne_of_gt (Nat.two_pow_pos _))

/-- Every single-bit flip at every offset of a valid record is rejected with an error. -/
theorem bitflip_fails {K : Type} (A : AEAD K) (reg : Nat → Option K) (L : Layout) (k0 : K) (keyId : Nat)
    (rep : PlainReport) (e1 c1 e2 c2 : Bytes) (hH : Honest L rep e1 c1 e2 c2)
    (hIdeal : OpenOnlySealed A [(k0, rep.info.toEncBytes, rep.matchKey, e1, c1),
                                (k0, rep.info.toEncBytes, rep.btt, e2, c2)])
    (hSizes : L.mkSz ≠ L.bk ∧ L.mkSz ≠ L.v) (hLen : OpenLen A L.tag)
    (hinj : ∀ kid, reg kid = some k0 → kid = keyId)
    (bit : Nat) (hbit : bit < 8 * (record rep keyId e1 c1 e2 c2).length) :
    ∃ e, process A reg L (flipBit (record rep keyId e1 c1 e2 c2) bit) = .err e :=
  tamper_fails_err A reg L k0 keyId rep e1 c1 e2 c2 hH hIdeal hSizes hLen hinj _ (flipBit_ne _ _ hbit)

/-- A helper that does not hold the key the report was sealed to rejects every byte string. -/
theorem wrong_key_fails {K : Type} (A : AEAD K) (reg : Nat → Option K) (L : Layout) (k0 : K)
    (log : List (K × Bytes × Bytes × Bytes × Bytes)) (hlog : ∀ x ∈ log, x.1 = k0)
    (hIdeal : OpenOnlySealed A log) (hLen : OpenLen A L.tag) (hreg : ∀ kid, reg kid ≠ some k0) (R' : Bytes) :
    ∃ e, process A reg L R' = .err e := by
  refine err_of_not_ok hLen fun rep' hp => ?_
  · obtain ⟨kid, sk, _, _, _, _, -, -, hr, -, hm, -⟩ := process_eq_ok_iff.mp hp
    exact hreg kid (hr.trans (congrArg some (hlog _ (hIdeal _ _ _ _ _ hm))))

theorem interval_unique {α : Type} {fs : List (α × Nat × Nat)} {off : Nat}
    (hs : fs.Pairwise fun f g => f.2.2 ≤ g.2.1) {f g : α × Nat × Nat} (hf : f ∈ fs) (hg : g ∈ fs)
    (h1 : f.2.1 ≤ off) (h2 : off < f.2.2) (h3 : g.2.1 ≤ off) (h4 : off < g.2.2) : f = g := by
  induction hs with
  | nil => cases hf
  | cons hd _ ih =>
    rcases List.mem_cons.mp hf with rfl | hf'
    · rcases List.mem_cons.mp hg with rfl | hg'
      · rfl
      · exact absurd (Nat.lt_of_lt_of_le h2 (hd g hg')) (Nat.not_lt.mpr h3)
    · rcases List.mem_cons.mp hg with rfl | hg'
      · exact absurd (Nat.lt_of_lt_of_le h4 (hd f hf')) (Nat.not_lt.mpr h1)
      · exact ih hf' hg'

/-- Every byte offset of a record (event byte + `INFO_OFFSET` bytes + `n` info bytes) lies in exactly one of
the seven fields. -/
theorem layout_partition (L : Layout) (k : Kind) (n off : Nat) (h : off < 1 + infoOff L k + n) :
    (∃ f ∈ fields L k n, f.2.1 ≤ off ∧ off < f.2.2) ∧
    (∀ f g, f ∈ fields L k n → g ∈ fields L k n → f.2.1 ≤ off → off < f.2.2 → g.2.1 ≤ off → off < g.2.2 → f = g) := by
  have o := offsets_step L k
  have := o.encapMk
  have := o.info
  have := o.ctMk_le
  have := o.encapBtt_le
  have := o.ctBtt_le
  constructor
  · simp only [fields, List.mem_cons, List.not_mem_nil, or_false, exists_eq_or_imp, exists_eq_left]
    omega
  · intro f g hf hg
    refine interval_unique ?_ hf hg
    simp only [fields, List.pairwise_cons, List.forall_mem_cons, List.not_mem_nil, false_imp_iff, implies_true,
      List.Pairwise.nil, and_true]
    omega

/-- The fields tile the record: consecutive, starting at 0, ending at `encrypted_len()`. -/
theorem fields_contiguous (L : Layout) (info : Info) :
    let fs := fields L info.kind info.toBytes.length
    (fs.head?.map (·.2.1) = some 0) ∧ (fs.getLast?.map (·.2.2) = some (encryptedLen L info)) ∧
    (∀ i, i + 1 < fs.length → (fs[i]?.map (·.2.2)) = (fs[i+1]?.map (·.2.1))) := by
  refine ⟨rfl, ?_, fun i hi => ?_⟩
  · show some (1 + infoOff L info.kind + info.toBytes.length) = some (infoOff L info.kind + info.toBytes.length + 1)
    rw [Nat.add_assoc, Nat.add_comm]
  have hi : i < 6 := Nat.lt_of_succ_lt_succ hi
  rcases i with _ | _ | _ | _ | _ | _ | i
  · exact congrArg (some <| 1 + ·) (offsets_step L info.kind).encapMk.symm
  · rfl
  · rfl
  · rfl
  · rfl
  · rfl
  · exact absurd hi (Nat.not_lt.mpr (Nat.le_add_left 6 i))

/-- A report as the sender's types guarantee it: share sizes, canonical padding, and metadata accepted by
`HybridConversionInfo::new` (ASCII ⇒ UTF-8; NUL-free, F7). -/
structure WfReport (L : Layout) (rep : PlainReport) : Prop where
  mkLen : rep.matchKey.length = L.mkSz
  bttLen : rep.btt.length = L.btt rep.info.kind
  share : validShare (L.bttBits rep.info.kind) rep.btt = true
  infoOk : match rep.info with
    | .imp _ => True
    | .conv c => c.Wf ∧ 0 ∉ c.site ∧ utf8Valid c.site = true

theorem parseInfo_toBytes {L : Layout} {rep : PlainReport} (hw : WfReport L rep) :
    parseInfo rep.info.kind rep.info.toBytes = .ok rep.info := by
  have h := hw.infoOk
  generalize rep.info = info at h
  cases info with
  | imp i => rfl
  | conv c =>
    show parseInfo .conv c.toBytes = _
    rw [parseInfo, info_roundtrip c h.1 h.2.1 h.2.2]; rfl

/-- A report encrypted to key `k` (registered under `keyId`) decrypts under that
registry to exactly the original shares and metadata. -/
theorem decrypt_encrypt {K : Type} (A : AEAD K) (S : Sealer K) (reg : Nat → Option K) (L : Layout)
    (k : K) (keyId : Nat) (rep : PlainReport) (r1 r2 : Nat)
    (hOS : OpenSeal A S) (hSL : SealLen S L) (hreg : reg keyId = some k) (hw : WfReport L rep) :
    process A reg L (encrypt S k keyId rep r1 r2) = .ok rep := by
  obtain ⟨le1, lc1⟩ := hSL k rep.info.toEncBytes rep.matchKey r1
  obtain ⟨le2, lc2⟩ := hSL k rep.info.toEncBytes rep.btt r2
  exact process_eq_ok_iff.mpr ⟨keyId, k, _, _, _, _, rfl, ⟨le1, hw.mkLen ▸ lc1, le2, hw.bttLen ▸ lc2⟩, hreg,
    parseInfo_toBytes hw, hOS .., hOS .., hw.mkLen, hw.bttLen, hw.share⟩

/-- The ideal AEAD whose sealing log is `log`: `open` is a table lookup. -/
def tableAEAD (tag : Nat) (log : List (Nat × Bytes × Bytes × Bytes × Bytes)) : AEAD Nat where
  open' k enc ct info :=
    (log.find? (fun e => e.1 == k && e.2.1 == info && e.2.2.2.1 == enc && e.2.2.2.2 == ct
        && e.2.2.1.length + tag == ct.length)).map (·.2.2.1)

theorem tableAEAD_ideal (tag : Nat) (log : List (Nat × Bytes × Bytes × Bytes × Bytes)) :
    OpenOnlySealed (tableAEAD tag log) log ∧ OpenLen (tableAEAD tag log) tag := by
  have key : ∀ k enc ct info m, (tableAEAD tag log).open' k enc ct info = some m →
      (k, info, m, enc, ct) ∈ log ∧ m.length + tag = ct.length := by
    intro k enc ct info m h
    obtain ⟨⟨k', info', m', enc', ct'⟩, he, rfl⟩ := Option.map_eq_some_iff.mp h
    have hp := List.find?_some he
    simp only [Bool.and_eq_true, beq_iff_eq] at hp
    obtain ⟨⟨⟨⟨rfl, rfl⟩, rfl⟩, rfl⟩, hl⟩ := hp
    exact ⟨List.mem_of_find?_eq_some he, hl⟩
  exact ⟨fun k enc ct info m h => (key k enc ct info m h).1,
    fun k enc ct info m h => (key k enc ct info m h).2⟩

/-- A toy sealer/opener pair (keyed checksum as "tag") satisfying correctness and the size laws. -/
def toyTag (tag k : Nat) (info plain : Bytes) : Bytes := List.replicate tag ((k + info.length + plain.sum) % 256)

def toySealer (encap tag : Nat) : Sealer Nat where
  sealFn k info plain r := (List.replicate encap (r % 256), plain ++ toyTag tag k info plain)

def toyAEAD (tag : Nat) : AEAD Nat where
  open' k _enc ct info :=
    let plain := ct.take (ct.length - tag)
    if tag ≤ ct.length ∧ ct.drop (ct.length - tag) = toyTag tag k info plain then some plain else none

theorem toy_laws (L : Layout) :
    OpenSeal (toyAEAD L.tag) (toySealer L.encap L.tag) ∧ SealLen (toySealer L.encap L.tag) L ∧
    OpenLen (toyAEAD L.tag) L.tag := by
  refine ⟨fun k info m r => ?_, fun k info m r => ?_, fun k enc ct info m h => ?_⟩
  · simp only [toyAEAD, toyTag, toySealer, List.length_append, List.length_replicate, Nat.le_add_left,
      Nat.add_sub_cancel, List.drop_left', List.take_left', and_self, if_true]
  · simp only [toySealer, toyTag, List.length_replicate, List.length_append, and_self]
  · simp only [toyAEAD] at h
    split at h
    · next hc =>
      cases h
      rw [List.length_take, Nat.min_eq_left (Nat.sub_le ..), Nat.sub_add_cancel hc.1]
    · cases h

-- site "m.c"; the sensitivity bytes are those of an `f64` NaN (the model does not interpret them)
def exRep : PlainReport :=
  { matchKey := List.replicate 16 7
    btt := [5, 2]
    info := .conv { keyId := 1, site := [109, 46, 99], ts := List.replicate 8 255, eps := List.replicate 8 0,
                    sens := [127, 248, 0, 0, 0, 0, 0, 0] } }

/-- `decrypt_encrypt` applies: a concrete conversion report with the production layout round-trips. -/
example :
    process (toyAEAD prodLayout.tag) (fun kid => if kid = 1 then some 42 else none) prodLayout
      (encrypt (toySealer prodLayout.encap prodLayout.tag) 42 1 exRep 3 4) = .ok exRep := by
  obtain ⟨hOS, hSL, _⟩ := toy_laws prodLayout
  have hw : WfReport prodLayout exRep :=
    { mkLen := by decide
      bttLen := by decide
      share := by decide
      infoOk := ⟨⟨by decide, by decide, by decide⟩, by decide, by decide⟩ }
  exact decrypt_encrypt _ _ _ _ 42 1 exRep 3 4 hOS hSL rfl hw

/-- the production layout satisfies the size side condition of `tamper_fails` -/
theorem prod_sizes : prodLayout.mkSz ≠ prodLayout.bk ∧ prodLayout.mkSz ≠ prodLayout.v := by decide

/-- a miniature layout (1-byte encapsulated keys and tags) for concrete instances -/
def tinyLayout : Layout := { encap := 1, tag := 1, mkSz := 2, bk := 1, bkBits := 8, v := 1, vBits := 8 }
def tinyRep : PlainReport := { matchKey := [1, 2], btt := [3], info := .imp { keyId := 0 } }
def tinyLog : List (Nat × Bytes × Bytes × Bytes × Bytes) :=
  [(5, tinyRep.info.toEncBytes, tinyRep.matchKey, [9], [1, 2, 7]), (5, tinyRep.info.toEncBytes, tinyRep.btt, [8], [3, 6])]
def tinyReg : Nat → Option Nat := fun kid => if kid = 0 then some 5 else none

/-- `tamper_fails`/`bitflip_fails` are not vacuous: all hypotheses hold for the table AEAD, and the honest
record itself is accepted. -/
example : ∀ bit, bit < 8 * (record tinyRep 0 [9] [1, 2, 7] [8] [3, 6]).length →
    ∃ e, process (tableAEAD 1 tinyLog) tinyReg tinyLayout (flipBit (record tinyRep 0 [9] [1, 2, 7] [8] [3, 6]) bit) = .err e := by
  intro bit hbit
  refine bitflip_fails (tableAEAD 1 tinyLog) tinyReg tinyLayout 5 0 tinyRep [9] [1, 2, 7] [8] [3, 6]
    ⟨by decide, by decide, by decide, by decide, trivial⟩ (tableAEAD_ideal 1 tinyLog).1 (by decide)
    (tableAEAD_ideal 1 tinyLog).2 ?_ bit hbit
  intro kid h
  simp only [tinyReg] at h
  split at h
  · assumption
  · simp at h

example : process (tableAEAD 1 tinyLog) tinyReg tinyLayout (record tinyRep 0 [9] [1, 2, 7] [8] [3, 6]) = .ok tinyRep := by
  decide

/-- The size side condition of `tamper_fails` is necessary: when the breakdown key has the size of the
match key, exchanging the two sealed parts (both sealed under the same info string) is accepted and
yields a *different* report. Not reachable with the production types (`prod_sizes`). -/
theorem swap_needs_sizes :
    let L : Layout := { tinyLayout with mkSz := 1 }
    let rep : PlainReport := { matchKey := [1], btt := [3], info := .imp { keyId := 0 } }
    let log := [(5, rep.info.toEncBytes, rep.matchKey, [9], [1, 7]), (5, rep.info.toEncBytes, rep.btt, [8], [3, 6])]
    process (tableAEAD 1 log) tinyReg L (record rep 0 [8] [3, 6] [9] [1, 7]) = .ok { rep with matchKey := [3], btt := [1] } := by
  decide

theorem empty_record_err {K : Type} (A : AEAD K) (reg : Nat → Option K) (L : Layout) :
    process A reg L [] = .err (.length 0 1) := rfl

/-- Whatever body arrives, framing either fails cleanly or hands over records each of
which is processed without panic. -/
theorem stream_total {K : Type} (A : AEAD K) (reg : Nat → Option K) (L : Layout) (hA : OpenLen A L.tag)
    (body : Bytes) (outs : List (Outcome PlainReport)) (h : processStream A reg L body = some outs) :
    ∀ o ∈ outs, ∀ t, o ≠ .panic t := by
  simp only [processStream, Option.map_eq_some_iff] at h
  obtain ⟨fs, _, rfl⟩ := h
  intro o ho t
  simp only [List.mem_map] at ho
  obtain ⟨f, _, rfl⟩ := ho
  exact (parse_total A reg L hA f t).2

end IpaVerif.C10
