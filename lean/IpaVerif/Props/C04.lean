import IpaVerif.Proofs.C04Down
/-!
# C04 — MAC-checked arithmetic and openings detect any additive deviation

Model: `Model/Mac.lean` (formulas and operand choices regenerated from the sources: `Generated/MacConsts.lean`).
All theorems hold over an arbitrary commutative ring `R` (hence Fp31, Fp32BitPrime, Fp25519 given that their
operators are ring operations — property C08), for every circuit (`List (Gate R)`: any sequence of upgrades,
multiplications and local linear operations on earlier wires), all PRSS masks, all random constants `α_k`, all
batch keys `r`, and all additive errors on all messages.

Notation: `rec w` = the value a consistent replicated sharing reconstructs to; `errSum e` = the total error put on
the (three) messages of one communication round — with a single deviating helper this is that helper's error;
`r̂ = rec r`; `α̂_k = rec α_k`.
-/
namespace IpaVerif.C04
open IpaVerif.Sharing IpaVerif.Mac IpaVerif.Generated.Mac

variable {R : Type} [CommRing R]
/-- for consistent replicated sharings `a`, `b`: the sum over the three helpers of
`(a_l + a_r)(b_l + b_r) − a_r·b_r` (the formula extracted from `compute_dot_product_contribution`) is `(Σa)·(Σb)`. -/
theorem dot_contribution_sum (a b : World R) (ha : Consistent a) (hb : Consistent b) :
    dotContribution (ringAlg R) a.h1 b.h1 + dotContribution (ringAlg R) a.h2 b.h2
      + dotContribution (ringAlg R) a.h3 b.h3 = rec a * rec b :=
  dot_sum a b ha hb

/-- non-vacuity: consistent sharings of any two values exist, for any choice of the random shares. -/
example (x y r1 r2 s1 s2 : R) :
    Consistent (share (ringAlg R) x r1 r2) ∧ Consistent (share (ringAlg R) y s1 s2) ∧
      rec (share (ringAlg R) x r1 r2) * rec (share (ringAlg R) y s1 s2) = x * y :=
  ⟨share_consistent _ _ _ _, share_consistent _ _ _ _, by rw [rec_share, rec_share]⟩

/-- any circuit, any masks, no (net) error on any message: every wire is a consistent sharing
of its plaintext value (`plain`) whose MAC part reconstructs to `r̂·value`; the helpers' `T` reconstructs to `0`;
`validate` returns `Ok` whatever the check-zero mask; every opening returns the wire's value on every helper. -/
theorem honest_validates [DecidableEq R] (r : World R) (hr : Consistent r) (mu mw : Masks R)
    (gs : List (Gate R)) (hok : ∀ g ∈ gs, GateOk g) (hh : ∀ g ∈ gs, GateHonest g)
    (czρ : Masks R) (czMask : World R) (hcz : Consistent czMask) :
    let st := run (ringAlg R) r gs ⟨[], initAcc (ringAlg R) mu mw⟩
    (∀ m ∈ st.wires, MConsistent m ∧ rec m.rx = rec r * rec m.x) ∧
    st.wires.map (fun m => rec m.x) = plain gs [] ∧
    rec (tOf (ringAlg R) (rec r) st.acc (noValErr (ringAlg R))) = 0 ∧
    validateE (ringAlg R) r st.acc (noValErr (ringAlg R)) czρ czMask = true ∧
    (∀ m ∈ st.wires, ∀ h, h < 3 → revealHonest (ringAlg R) m.x h = some (rec m.x)) := by
  intro st
  obtain ⟨hc, hmap, hT⟩ := run_rel_honest hr mu mw hok hh
  obtain ⟨hT0, hval⟩ := validate_honest hT hcz
  refine ⟨fun m hm => ⟨hc m hm, ?_⟩, ?_, hT0, hval, fun m hm h hh3 => reveal_honest m.x (hc m hm).1 h hh3⟩
  · -- the wire's plaintext shadow is some `intact v`: its discrepancy `rx − r̂·x` is `0`
    obtain ⟨v, _, hv⟩ := List.mem_map.mp (hmap ▸ List.mem_map_of_mem (f := pwOf (rec r)) hm)
    exact sub_eq_zero.mp (congrArg PW.disc hv).symm
  · have := congrArg (List.map PW.val) hmap
    simpa only [List.map_map, List.map_id', Function.comp_def, intact, pwOf] using this

/-- arbitrary errors on the messages of upgrades, multiplications (value part `e`, MAC part
`e'`) and of `propagate_u_and_w`: the sharing of `T` the helpers hold is consistent and reconstructs to
`Σ_k α̂_k·D_k + (ε_u − ε_w·r̂)`, `(α̂_k, D_k)` = `macTerms`. -/
theorem additive_attack_T (r : World R) (hr : Consistent r) (mu mw : Masks R)
    (gs : List (Gate R)) (hok : ∀ g ∈ gs, GateOk g) (ve : ValErr R) :
    let st := run (ringAlg R) r gs ⟨[], initAcc (ringAlg R) mu mw⟩
    Consistent (tOf (ringAlg R) (rec r) st.acc ve) ∧
    rec (tOf (ringAlg R) (rec r) st.acc ve)
      = termSum (macTerms (rec r) gs []) + (errSum ve.eu - errSum ve.ew * rec r) := by
  intro st
  obtain ⟨hc, hv⟩ := tOf_value (rec r) st.acc ve
  exact ⟨hc, hv.trans (congrArg (· + _) (run_rel_init hr mu mw hok).acc_eq)⟩

/-- `validate` returns `Ok` iff the opened check-zero value `ρ̂·T + δ_cz` is zero (any ring, any errors). -/
theorem attack_accept_iff [DecidableEq R] (r : World R) (hr : Consistent r) (mu mw : Masks R)
    (gs : List (Gate R)) (hok : ∀ g ∈ gs, GateOk g) (ve : ValErr R)
    (czρ : Masks R) (czMask : World R) (hcz : Consistent czMask) :
    let st := run (ringAlg R) r gs ⟨[], initAcc (ringAlg R) mu mw⟩
    validateE (ringAlg R) r st.acc ve czρ czMask = true ↔
      rec czMask * (termSum (macTerms (rec r) gs []) + (errSum ve.eu - errSum ve.ew * rec r)) + errSum ve.ecz = 0 := by
  intro st
  rw [validateE_iff hcz, (run_rel_init hr mu mw hok).acc_eq]

/-- over a domain, with an untouched check-zero multiplication: accepted iff `T = 0` or the mask is `0`. -/
theorem attack_accept_iff_domain [DecidableEq R] [IsDomain R] (r : World R) (hr : Consistent r) (mu mw : Masks R)
    (gs : List (Gate R)) (hok : ∀ g ∈ gs, GateOk g) (ve : ValErr R) (hecz : errSum ve.ecz = 0)
    (czρ : Masks R) (czMask : World R) (hcz : Consistent czMask) :
    let st := run (ringAlg R) r gs ⟨[], initAcc (ringAlg R) mu mw⟩
    validateE (ringAlg R) r st.acc ve czρ czMask = true ↔
      (termSum (macTerms (rec r) gs []) + (errSum ve.eu - errSum ve.ew * rec r) = 0 ∨ rec czMask = 0) := by
  intro st
  refine (attack_accept_iff r hr mu mw gs hok ve czρ czMask hcz).trans ?_
  rw [hecz, add_zero, mul_eq_zero]
  exact Or.comm

/-- closed form of `additive_attack_T`: `T = Σ_k α̂_k·(δ′_k − r̂·δ_k) + (ε_u − ε_w·r̂)`. -/
theorem additive_attack_T_flat (r : World R) (hr : Consistent r) (mu mw : Masks R)
    (gs : List (Gate R)) (hok : ∀ g ∈ gs, GateOk g) (hnf : NoFeed (rec r) gs []) (ve : ValErr R) :
    let st := run (ringAlg R) r gs ⟨[], initAcc (ringAlg R) mu mw⟩
    rec (tOf (ringAlg R) (rec r) st.acc ve)
      = termSum (flatTerms (rec r) gs) + (errSum ve.eu - errSum ve.ew * rec r) := by
  intro st
  rw [← macTerms_flat (rec r) gs [] hnf]
  exact (additive_attack_T r hr mu mw gs hok ve).2

/-- a single attacked gate after an honest prefix: `T = α̂·(δ′ − r̂·δ)` for a multiplication (`δ` = error on the
value part, `δ′` on the MAC part), `T = α̂·δ′` for an upgrade. -/
theorem single_gate_attack_T (r : World R) (hr : Consistent r) (mu mw : Masks R)
    (gs : List (Gate R)) (hok : ∀ g ∈ gs, GateOk g) (hh : ∀ g ∈ gs, GateHonest g) :
    (∀ x ρ α e', GateOk (Gate.upgrade x ρ α e') →
      rec (tOf (ringAlg R) (rec r) (run (ringAlg R) r (gs ++ [Gate.upgrade x ρ α e'])
          ⟨[], initAcc (ringAlg R) mu mw⟩).acc (noValErr (ringAlg R))) = rec α * errSum e') ∧
    (∀ i j ρ ρ' α e e', GateOk (Gate.mul i j ρ ρ' α e e') →
      rec (tOf (ringAlg R) (rec r) (run (ringAlg R) r (gs ++ [Gate.mul i j ρ ρ' α e e'])
          ⟨[], initAcc (ringAlg R) mu mw⟩).acc (noValErr (ringAlg R)))
        = rec α * (errSum e' - rec r * errSum e)) := by
  -- `macTerms_single` with no gates after the attacked one
  have hT : ∀ (g : Gate R) (v D a : R), GateOk g →
      pstep (rec r) ((plain gs []).map intact, 0) g = ((plain gs []).map intact ++ [⟨v, D⟩], a * D) →
      rec (tOf (ringAlg R) (rec r) (run (ringAlg R) r (gs ++ [g]) ⟨[], initAcc (ringAlg R) mu mw⟩).acc
        (noValErr (ringAlg R))) = a * D := by
    intro g v D a hg hs
    have hall : ∀ g' ∈ gs ++ [g], GateOk g' :=
      List.forall_mem_append.mpr ⟨hok, List.forall_mem_singleton.mpr hg⟩
    rw [(additive_attack_T r hr mu mw _ hall _).2, macTerms_single (rec r) hh (List.forall_mem_nil _) hs]
    simp only [kterms, noValErr, errSum_noErr, zero_mul, sub_zero, add_zero, mul_comm]
  exact ⟨fun x ρ α e' hg => hT _ (rec x) _ _ hg (by simp only [pstep, zero_add]), fun i j ρ ρ' α e e' hg =>
    hT _ ((plain gs []).getD i 0 * (plain gs []).getD j 0 + errSum e) _ _ hg
      (by simp only [pstep, pget_intact, intact, zero_mul, zero_add])⟩

/-- a value is returned only if the two received copies are identical, and it is their
sum with the receiver's own two shares. -/
theorem reveal_only_if_equal [DecidableEq R] (own : HShare R) (fromLeft fromRight v : R)
    (h : revealAt (ringAlg R) own fromLeft fromRight = some v) :
    fromLeft = fromRight ∧ v = fromLeft + own.l + own.r := by
  unfold revealAt at h
  split at h
  · next heq => exact ⟨heq, by simpa [ringAlg] using h.symm⟩
  · exact absurd h (by simp)

omit [CommRing R] in
theorem revealAt_forged [DecidableEq R] (A : Alg R) (own : HShare R) (v m : R) :
    (revealAt A own m v = none ∨ revealAt A own m v = revealAt A own v v) ∧
    (revealAt A own v m = none ∨ revealAt A own v m = revealAt A own v v) := by
  by_cases e : m = v
  · subst e; exact ⟨Or.inr rfl, Or.inr rfl⟩
  · exact ⟨Or.inl (if_neg e), Or.inl (if_neg (Ne.symm e))⟩

/-- among three helpers, a helper `c ≠ h` is either the left or the right peer of `h` -/
theorem peer_cases : ∀ h : Nat, h < 3 → ∀ c : Nat, c < 3 → h ≠ c →
    ((h + 2) % 3 = c % 3 ∧ ¬ (h + 1) % 3 = c % 3) ∨ (¬ (h + 2) % 3 = c % 3 ∧ (h + 1) % 3 = c % 3) := by
  decide

/-- one deviating helper `c` sending arbitrary values `mL`, `mR`: every other helper
`h` fails the opening or obtains exactly the shared value. -/
theorem reveal_two_copies [DecidableEq R] (w : World R) (hw : Consistent w) (c h : Nat) (hc : c < 3) (hh : h < 3)
    (hne : h ≠ c) (mL mR : R) :
    revealCorrupt (ringAlg R) w c h mL mR = none ∨ revealCorrupt (ringAlg R) w c h mL mR = some (rec w) := by
  -- the two genuine copies agree; `h` receives one of them and one value chosen by `c`
  have hv : revealMsgToRight (view w (h + 2)) = revealMsgToLeft (view w (h + 1)) := (view_cyc hw h).2.1.symm
  have hon := reveal_honest w hw h hh
  rw [revealHonest, hv] at hon
  rw [revealCorrupt, hv, ← hon]
  rcases peer_cases h hh c hc hne with ⟨h1, h2⟩ | ⟨h1, h2⟩
  · rw [if_pos h1, if_neg h2]; exact (revealAt_forged _ _ _ mR).1
  · rw [if_neg h1, if_pos h2]; exact (revealAt_forged _ _ _ mL).2

/-- non-vacuity of `reveal_two_copies`: a consistent sharing, helper 1 deviating, seen from helper 0; and a forged
copy really is rejected. -/
example (x r1 r2 : Nat) :
    Consistent (share (modAlg 31) x r1 r2) ∧ (1 : Nat) < 3 ∧ (0 : Nat) < 3 ∧ (0 : Nat) ≠ 1 ∧
      revealCorrupt (modAlg 31) (share (modAlg 31) 5 1 2) 1 0 9 9 = none :=
  ⟨share_consistent _ _ _ _, by decide, by decide, by decide, rfl⟩

/-- the MAC'd variant: opening a `MaliciousReplicated` opens its `x` part with the same two-copy rule. -/
theorem reveal_two_copies_mac [DecidableEq R] (m : MShare R) (hm : MConsistent m) (c h : Nat) (hc : c < 3)
    (hh : h < 3) (hne : h ≠ c) (mL mR : R) :
    revealM (ringAlg R) m c h mL mR = none ∨ revealM (ringAlg R) m c h mL mR = some (rec m.x) :=
  reveal_two_copies m.x hm.1 c h hc hh hne mL mR

/-- with the extracted multipliers (`TOTAL_CALLS_TO_PRSS = 3`, `TOTAL_SEND = 2`). -/
theorem record_ids_disjoint (o o' : Nat) :
    -- the three PRSS indices of a batch are distinct, and batches do not share any
    (rShareRecord o totalCallsToPrss ≠ uRecord o totalCallsToPrss ∧
      rShareRecord o totalCallsToPrss ≠ wRecord o totalCallsToPrss ∧
      uRecord o totalCallsToPrss ≠ wRecord o totalCallsToPrss) ∧
    (o ≠ o' → ∀ a ∈ prssRecords o, ∀ b ∈ prssRecords o', a ≠ b) ∧
    -- the two records a batch sends on the propagate channel are distinct, and batches do not share any
    uRecord o totalSend ≠ wRecord o totalSend ∧
    (o ≠ o' → ∀ a ∈ sendRecords o, ∀ b ∈ sendRecords o', a ≠ b) ∧
    -- reveal-r / check-zero record ids are injective in the batch offset
    (revealCheckZeroRecord o = revealCheckZeroRecord o' → o = o') := by
  -- the batch offset is recovered from a record id by division
  have hp : ∀ o, ∀ a ∈ prssRecords o, a / 3 = o := by
    intro o a ha
    simp only [prssRecords, rShareRecord, uRecord, wRecord, totalCallsToPrss, uRecordAdd, wRecordAdd, rShareRecordAdd,
      List.mem_cons, List.mem_nil_iff, or_false] at ha
    rcases ha with rfl | rfl | rfl
    exacts [Nat.mul_add_div (by decide) o 2, Nat.mul_add_div (by decide) o 0, Nat.mul_add_div (by decide) o 1]
  have hs : ∀ o, ∀ a ∈ sendRecords o, a / 2 = o := by
    intro o a ha
    simp only [sendRecords, uRecord, wRecord, totalSend, uRecordAdd, wRecordAdd, List.mem_cons, List.mem_nil_iff,
      or_false] at ha
    rcases ha with rfl | rfl
    exacts [Nat.mul_add_div (by decide) o 0, Nat.mul_add_div (by decide) o 1]
  refine ⟨?_, fun hne a ha b hb e => hne (hp o a ha ▸ hp o' b hb ▸ congrArg (· / 3) e), ?_,
    fun hne a ha b hb e => hne (hs o a ha ▸ hs o' b hb ▸ congrArg (· / 2) e), fun h => h⟩
  · simp only [rShareRecord, uRecord, wRecord, uRecordAdd, wRecordAdd, rShareRecordAdd]
    exact ⟨by omega, by omega, by omega⟩
  · simp only [uRecord, wRecord, uRecordAdd, wRecordAdd]; omega

/-- a concrete circuit satisfying the hypotheses of `honest_validates`: two upgraded inputs, their product, a
linear combination, with arbitrary masks; and of `additive_attack_T`: the same with an error on the product. -/
example (x y r1 r2 s1 s2 a1 a2 a3 k1 k2 k3 t1 t2 δ : R) :
    let X := share (ringAlg R) x r1 r2
    let Y := share (ringAlg R) y s1 s2
    let α := share (ringAlg R) a1 a2 a3
    let ρ : Masks R := ⟨k1, k2, k3⟩
    let z := noErr (ringAlg R)
    let gs : List (Gate R) := [.upgrade X ρ α z, .upgrade Y ρ α z, .mul 0 1 ρ ρ α z z, .add 2 0, .mulConst 3 t1]
    let gs' : List (Gate R) := [.upgrade X ρ α z, .upgrade Y ρ α z, .mul 0 1 ρ ρ α ⟨δ, 0, 0⟩ z]
    Consistent (share (ringAlg R) t1 t2 t2) ∧ (∀ g ∈ gs, GateOk g) ∧ (∀ g ∈ gs, GateHonest g) ∧
      plain gs [] = [x, y, x * y, x * y + x, (x * y + x) * t1] ∧
      (∀ g ∈ gs', GateOk g) ∧ NoFeed t1 gs' [] := by
  intro X Y α ρ z gs gs'
  have hc : ∀ a b c : R, Consistent (share (ringAlg R) a b c) := share_consistent _
  have hz : errSum z = 0 := errSum_noErr
  have hX := And.intro (hc x r1 r2) (hc a1 a2 a3)
  have hY := And.intro (hc y s1 s2) (hc a1 a2 a3)
  refine ⟨hc _ _ _, ?_, ?_, ?_, ?_, trivial, trivial, hz, trivial⟩
  · exact List.forall_mem_cons.mpr ⟨hX, List.forall_mem_cons.mpr ⟨hY, List.forall_mem_cons.mpr ⟨hc _ _ _,
      List.forall_mem_cons.mpr ⟨trivial, List.forall_mem_singleton.mpr trivial⟩⟩⟩⟩
  · exact List.forall_mem_cons.mpr ⟨hz, List.forall_mem_cons.mpr ⟨hz, List.forall_mem_cons.mpr ⟨⟨hz, hz⟩,
      List.forall_mem_cons.mpr ⟨trivial, List.forall_mem_singleton.mpr trivial⟩⟩⟩⟩
  · simp only [gs, plain, plainStep, X, Y, rec_share, List.nil_append, List.cons_append, List.getD_cons_zero,
      List.getD_cons_succ]
  · exact List.forall_mem_cons.mpr ⟨hX, List.forall_mem_cons.mpr ⟨hY, List.forall_mem_singleton.mpr (hc _ _ _)⟩⟩

end IpaVerif.C04
