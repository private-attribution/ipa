import IpaVerif.Model.Auth
/-!
# C20 — helper-to-helper and shard-to-shard endpoints refuse unauthenticated callers

Theorems about the route trees regenerated from `net/server/handlers/**` (with the position of the
`HelperAuthentication` layer), flattened by axum's rule, and about the identity-deriving layers that
`start_on` installs.
-/
namespace IpaVerif.C20
open IpaVerif.Auth IpaVerif.Generated.Routes

/-- Can two templates match a common path? (conservative: `true` whenever they might) -/
def overlap : List Seg → List Seg → Bool
  | [], [] => true
  | [.wildcard], _ :: _ => true
  | _ :: _, [.wildcard] => true
  | .lit a :: s, .lit b :: t => a == b && overlap s t
  | .lit _ :: s, .param :: t => overlap s t
  | .param :: s, .lit _ :: t => overlap s t
  | .param :: s, .param :: t => overlap s t
  | _, _ => false

theorem matchPath_nil {a : List Seg} (h : matchPath a [] = true) : a = [] := by
  cases a with
  | nil => rfl
  | cons x xs => cases x <;> cases xs <;> cases h

theorem matchPath_cons {x : Seg} {xs : List Seg} {q : String} {qs : List String}
    (h : matchPath (x :: xs) (q :: qs) = true) :
    (x = .wildcard ∧ xs = []) ∨ ((x = .lit q ∨ x = .param) ∧ matchPath xs qs = true) := by
  cases x with
  | lit s =>
    have h : (s == q && matchPath xs qs) = true := h
    rw [Bool.and_eq_true, beq_iff_eq] at h
    exact .inr ⟨.inl (h.1 ▸ rfl), h.2⟩
  | param => exact .inr ⟨.inr rfl, h⟩
  | wildcard =>
    cases xs with
    | nil => exact .inl ⟨rfl, rfl⟩
    | cons _ _ => cases h

theorem overlap_of_match (p : List String) : ∀ (a b : List Seg),
    matchPath a p = true → matchPath b p = true → overlap a b = true := by
  induction p with
  | nil =>
    intro a b h1 h2
    rw [matchPath_nil h1, matchPath_nil h2]
    rfl
  | cons q qs ih =>
    intro a b h1 h2
    cases a with
    | nil => cases h1
    | cons x xs =>
      cases b with
      | nil => cases h2
      | cons y ys =>
        rcases matchPath_cons h1 with ⟨rfl, rfl⟩ | ⟨hx, h1⟩
        · rfl
        · rcases matchPath_cons h2 with ⟨rfl, rfl⟩ | ⟨hy, h2⟩
          · cases x <;> cases xs <;> rfl
          · -- both heads match `q`: the templates overlap iff their tails do
            have := ih xs ys h1 h2
            rcases hx with rfl | rfl <;> rcases hy with rfl | rfl <;> simp [overlap, this]

def hasAuth (f : Flavor) (e : Entry) : Bool := e.layers.any (· == .auth f)

def guarded (f : Flavor) (prot table : List Entry) : Bool :=
  prot.all fun pe => table.all fun e => !(e.method == pe.method && overlap pe.path e.path) || hasAuth f e

theorem blockedBy_of_hasAuth {f : Flavor} {e : Entry} {r : Req}
    (ha : hasAuth f e = true) (hid : r.hasId f = false) : blockedBy e.layers r = true := by
  obtain ⟨l, hl, hla⟩ := List.any_eq_true.mp ha
  obtain rfl : l = .auth f := by simpa using hla
  exact List.any_eq_true.mpr ⟨_, hl, by simp [hid]⟩

theorem respond_of_route {table : List Entry} {r : Req} {pe : Entry} (P : Entry → Bool)
    (hg : (table.all fun e => !(e.method == pe.method && overlap pe.path e.path) || P e) = true)
    (hin : pe ∈ table) (hm : matchPath pe.path r.path = true) (hmeth : pe.method = r.method) :
    ∃ e, P e = true ∧
      respond table r = if blockedBy e.layers r then .unauthorized else .handled e.handler := by
  have hpe : pe ∈ table.filter (fun e => matchPath e.path r.path) := List.mem_filter.mpr ⟨hin, hm⟩
  cases hf : (table.filter fun e => matchPath e.path r.path).find? (fun e => e.method == r.method) with
  | none => simpa [hmeth] using List.find?_eq_none.mp hf pe hpe
  | some e =>
    obtain ⟨he, hme⟩ := List.mem_filter.mp (List.mem_of_find?_eq_some hf)
    refine ⟨e, ?_, ?_⟩
    · -- `e` has the request's method and matches its path, as `pe` does: it could serve a request of `pe`
      have hP := List.all_eq_true.mp hg e he
      rw [hmeth, List.find?_some hf, overlap_of_match r.path _ _ hm hme] at hP
      exact hP
    · unfold respond
      cases hc : table.filter (fun e => matchPath e.path r.path) with
      | nil => rw [hc] at hpe; cases hpe
      | cons c cs => rw [hc] at hf; simp only [hf]

theorem respond_unauthorized (f : Flavor) (table : List Entry) (r : Req) (pe : Entry)
    (hg : (table.all fun e => !(e.method == pe.method && overlap pe.path e.path) || hasAuth f e) = true)
    (hin : pe ∈ table) (hm : matchPath pe.path r.path = true) (hmeth : pe.method = r.method)
    (hid : r.hasId f = false) : respond table r = .unauthorized := by
  obtain ⟨e, ha, hr⟩ := respond_of_route (hasAuth f) hg hin hm hmeth
  rw [hr, blockedBy_of_hasAuth ha hid]
  rfl

/-- the h2h routes as mounted in the MPC server (`nest("/query", … h2h_router …)`) -/
def h2hMounted : List Entry := flatten (.nest .new [.lit "query"] h2hRouter)
def s2sMounted : List Entry := flatten (.nest .new [.lit "query"] s2sRouter)

theorem h2h_table_guarded : guarded .helper h2hMounted (flatten mpcRouter) = true := by decide
theorem s2s_table_guarded : guarded .shard s2sMounted (flatten shardRouter) = true := by decide

/-- The MPC server serves exactly echo, metrics, the collector routes
and the authenticated h2h routes; the shard server exactly echo and the authenticated s2s routes;
and every route that is not echo/metrics/collector carries its authentication layer. (The translator
additionally checks that every `.route(` call under `net/server/handlers` is inside one of the
extracted router functions and that all of them are mounted.) -/
theorem no_route_outside_tables :
    flatten mpcRouter =
      flatten (.route .new [.lit "echo"] .get "echo::router:handler") ++
      (flatten (.route .new [.lit "metrics"] .get "metrics::router:handler")).map (fun e => { e with layers := [.extension] }) ++
      flatten (.nest .new [.lit "query"] queryRouter) ++ h2hMounted ∧
    flatten shardRouter = flatten (.route .new [.lit "echo"] .get "echo::router:handler") ++ s2sMounted ∧
    (h2hMounted.all (hasAuth .helper)) = true ∧ (s2sMounted.all (hasAuth .shard)) = true :=
  ⟨rfl, rfl, by decide, by decide⟩

/-- For EVERY request (any query id, step, parameters — the body never
reaches the layer) whose path and method match a route of the regenerated `h2h_router`
(resp. `s2s_router`) table, if the request carries no `ClientIdentity` extension of that flavor the
MPC (resp. shard) server answers 401 and no handler runs. -/
theorem h2h_s2s_require_identity (r : Req) :
    (∀ pe ∈ h2hMounted, matchPath pe.path r.path = true → pe.method = r.method → r.helperId = false →
        respond (flatten mpcRouter) r = .unauthorized) ∧
    (∀ pe ∈ s2sMounted, matchPath pe.path r.path = true → pe.method = r.method → r.shardId = false →
        respond (flatten shardRouter) r = .unauthorized) :=
  -- the mounted routes are the last segment of their server's table
  ⟨fun pe hpe => respond_unauthorized .helper _ r pe (List.all_eq_true.mp h2h_table_guarded pe hpe)
      (no_route_outside_tables.1 ▸ List.mem_append_right _ hpe),
   fun pe hpe => respond_unauthorized .shard _ r pe (List.all_eq_true.mp s2s_table_guarded pe hpe)
      (no_route_outside_tables.2.1 ▸ List.mem_append_right _ hpe)⟩

theorem protected_of_anonymous {α : Type} {c : α} {g : Resp → α} {path : List String} {m : Method}
    {x : Flavor → List Entry → α}
    (key : ∀ f routes, x f routes = c ∨ x f routes = g (respond routes ⟨path, m, false, false⟩)) :
    (∀ pe ∈ h2hMounted, matchPath pe.path path = true → pe.method = m →
        x .helper (flatten mpcRouter) = c ∨ x .helper (flatten mpcRouter) = g .unauthorized) ∧
    (∀ pe ∈ s2sMounted, matchPath pe.path path = true → pe.method = m →
        x .shard (flatten shardRouter) = c ∨ x .shard (flatten shardRouter) = g .unauthorized) := by
  have hr := h2h_s2s_require_identity ⟨path, m, false, false⟩
  refine ⟨fun pe hpe hm hmeth => ?_, fun pe hpe hm hmeth => ?_⟩
  · rw [← hr.1 pe hpe hm hmeth rfl]
    exact key .helper _
  · rw [← hr.2 pe hpe hm hmeth rfl]
    exact key .shard _

example : (⟨[.lit "query", .param, .lit "step", .wildcard], .post, "query::step::router:handler::<F>", [.auth .helper, .extension]⟩ : Entry) ∈ h2hMounted :=
  List.mem_of_getElem? (i := 0) rfl
example : respond (flatten mpcRouter) ⟨["query", "0", "step", "a", "b"], .post, false, true⟩ = .unauthorized := by decide

/-- No route of `query_router` (report-collector API), nor echo/metrics,
is behind an authentication layer in the MPC server; a request without any identity reaches the
handler. -/
theorem collector_routes_open :
    ((flatten queryRouter).all fun e => !hasAuth .helper e && !hasAuth .shard e) = true ∧
    ((flatten (.nest .new [.lit "query"] queryRouter)).all fun e => (flatten mpcRouter).contains e) = true ∧
    respond (flatten mpcRouter) ⟨["query", "0", "complete"], .get, false, false⟩
      = .handled "query::results::router:handler::<F>" ∧
    respond (flatten mpcRouter) ⟨["query", "0"], .get, false, false⟩ = .handled "query::status::router:handler" :=
  ⟨by decide,
   List.all_eq_true.mpr fun _ he => List.contains_iff_mem.mpr <|
     no_route_outside_tables.1 ▸ List.mem_append_left _ (List.mem_append_right _ he),
   rfl, rfl⟩

/-- What the property demands of the arm `(disable_https, listener)` of `start_on`: the header
layer exactly when https is disabled, the certificate-recognising TLS acceptor exactly when enabled. -/
def wantedArm (d l : Bool) : StartArm :=
  { disableHttps := d, listener := l, headerLayer := d, tlsAcceptor := !d, recognised := true }

/-! One `decide` per regenerated arm of `start_on`, so that a broken arm is named by the failing
theorem (`listener = false` is the self-bound server: `start_on(.., None, ..)`, the helper binary's
default path, which no in-crate test executes). -/
theorem arm_tls_prebound : armFor false true = some (wantedArm false true) := by decide
theorem arm_tls_selfbound : armFor false false = some (wantedArm false false) := by decide
theorem arm_plain_prebound : armFor true true = some (wantedArm true true) := by decide
theorem arm_plain_selfbound : armFor true false = some (wantedArm true false) := by decide

theorem armFor_eq (d l : Bool) : armFor d l = some (wantedArm d l) := by
  cases d <;> cases l
  · exact arm_tls_selfbound
  · exact arm_tls_prebound
  · exact arm_plain_selfbound
  · exact arm_plain_prebound

theorem eq_wantedArm {d l : Bool} {a : StartArm} (ha : armFor d l = some a) : a = wantedArm d l :=
  Option.some.inj (ha.symm.trans (armFor_eq d l))

/-- The four regenerated arms of `start_on`, pre-bound and self-bound: the header layer is installed
exactly when https is disabled, and the certificate-recognising TLS acceptor exactly when it is
enabled; every arm was recognised by the translator. -/
theorem header_only_without_tls :
    startOnArms.length = 4 ∧
    (startOnArms.all fun a => a.recognised && a.headerLayer == a.disableHttps && a.tlsAcceptor == !a.disableHttps) = true ∧
    (∀ d l, armFor d l = some (wantedArm d l)) := by
  refine ⟨by decide, by decide, armFor_eq⟩

/-- With `disable_https = false` — whether the listener is pre-bound or the
server binds itself — the identity extension is a function of the client certificate only: whatever
identity header the caller supplies (absent, malformed, or claiming any identity) has no effect; in
particular no certificate ⇒ no identity ⇒ 401 on every h2h/s2s route. -/
theorem tls_ignores_header {Ident : Type} (l : Bool) (a : StartArm) (ha : armFor false l = some a)
    (cert : Option Ident) (h h' : Option (Option Ident)) :
    deriveIdentity a ⟨cert, h⟩ = deriveIdentity a ⟨cert, h'⟩ ∧ deriveIdentity a ⟨cert, h⟩ = .ext cert := by
  cases eq_wantedArm ha
  exact ⟨rfl, rfl⟩

/-- Without TLS the identity is exactly what the header says (absent ⇒ none; malformed ⇒ the request
is rejected before routing); a certificate cannot exist on such a connection and is ignored. -/
theorem plain_identity_from_header {Ident : Type} (l : Bool) (a : StartArm) (ha : armFor true l = some a)
    (cert : Option Ident) (id : Ident) :
    deriveIdentity a ⟨cert, none⟩ = .ext none ∧
    deriveIdentity a ⟨cert, some none⟩ = .rejected ∧
    deriveIdentity a ⟨cert, some (some id)⟩ = .ext (some id) := by
  cases eq_wantedArm ha
  exact ⟨rfl, rfl, rfl⟩

example : armFor false true = some ⟨false, true, false, true, true⟩ := by decide

/-- Regenerated from `rustls_config`: the client verifier's trust anchors are
exactly the peers' certificates, client authentication is optional (report collectors have no
certificate) and the verifier is installed in the rustls server config. -/
theorem tls_setup_ok :
    tlsSetup = { anchorsFromPeers := true, clientAuthOptional := true, verifierInstalled := true, recognised := true } := by
  decide

/-- Over a server started with https enabled (either arm), the answer to
ANY request (any route table, path, method, certificate, client protocol) is the same whatever the
identity header. -/
theorem live_tls_ignores_header {Ident : Type} (l : Bool) (a : StartArm) (ha : armFor false l = some a)
    (f : Flavor) (routes : List Entry) (tls : Bool) (cert : ClientCert Ident)
    (h h' : Option (Option Ident)) (path : List String) (m : Method) :
    serve f routes a ⟨tls, cert, h⟩ path m = serve f routes a ⟨tls, cert, h'⟩ path m := by
  cases eq_wantedArm ha
  -- this arm has no header layer: `deriveIdentity` does not look at the header
  rfl

theorem serve_unverified {Ident : Type} (d l tls : Bool) (cert : ClientCert Ident) (h : Option (Option Ident))
    (path : List String) (m : Method) (hno : if d then h = none else cert.identity = none)
    (f : Flavor) (routes : List Entry) :
    serve f routes (wantedArm d l) ⟨tls, cert, h⟩ path m = .connErr ∨
    serve f routes (wantedArm d l) ⟨tls, cert, h⟩ path m = .resp (respond routes ⟨path, m, false, false⟩) := by
  cases d
  · -- https: the header layer is absent, the identity is the certificate's
    cases cert with
    | peer id => cases hno
    | _ => cases tls <;> simp [serve, serveWith, handshake, tlsSetup, deriveIdentity, wantedArm]
  · -- plain http: no certificate is looked at, the header is absent
    cases (hno : h = none)
    cases tls <;> simp [serve, serveWith, deriveIdentity, wantedArm]

/-- On a server started through ANY of the four arms, a request
matching a route of `h2h_router` (MPC server) / `s2s_router` (shard server) from a client that
presents no certificate of a configured peer (https) resp. no identity header (plain http) gets no
answer other than 401 (or no HTTP answer at all). -/
theorem live_requires_verified_identity {Ident : Type} (d l : Bool) (a : StartArm) (ha : armFor d l = some a)
    (tls : Bool) (cert : ClientCert Ident) (h : Option (Option Ident)) (path : List String) (m : Method)
    (hno : if d then h = none else cert.identity = none) :
    (∀ pe ∈ h2hMounted, matchPath pe.path path = true → pe.method = m →
        serve .helper (flatten mpcRouter) a ⟨tls, cert, h⟩ path m = .connErr ∨
        serve .helper (flatten mpcRouter) a ⟨tls, cert, h⟩ path m = .resp .unauthorized) ∧
    (∀ pe ∈ s2sMounted, matchPath pe.path path = true → pe.method = m →
        serve .shard (flatten shardRouter) a ⟨tls, cert, h⟩ path m = .connErr ∨
        serve .shard (flatten shardRouter) a ⟨tls, cert, h⟩ path m = .resp .unauthorized) := by
  cases eq_wantedArm ha
  exact protected_of_anonymous (serve_unverified d l tls cert h path m hno)

/-- the hypotheses are satisfiable and the conclusion is not vacuous: a request (https,
self-bound, no certificate, header claiming helper 1, the step route) is answered 401 -/
example : serve .helper (flatten mpcRouter) (wantedArm false false) ⟨true, .none, some (some 1)⟩
    ["query", "0", "step", "protocol", "alpha"] .post = .resp .unauthorized := by decide

def noAuth (e : Entry) : Bool := !hasAuth .helper e && !hasAuth .shard e

theorem not_blocked_of_noAuth (e : Entry) (r : Req) (h : noAuth e = true) : blockedBy e.layers r = false := by
  rw [blockedBy, List.any_eq_false]
  intro l hl
  cases l with
  | extension => simp
  | auth f =>
    have : hasAuth f e = true := List.any_eq_true.mpr ⟨_, hl, by simp⟩
    cases f <;> simp [noAuth, this] at h

theorem respond_open (table : List Entry) (r : Req) (pe : Entry)
    (hg : (table.all fun e => !(e.method == pe.method && overlap pe.path e.path) || noAuth e) = true)
    (hin : pe ∈ table) (hm : matchPath pe.path r.path = true) (hmeth : pe.method = r.method) :
    ∃ h, respond table r = .handled h := by
  obtain ⟨e, ha, hr⟩ := respond_of_route noAuth hg hin hm hmeth
  exact ⟨e.handler, by rw [hr, not_blocked_of_noAuth e r ha]; rfl⟩

/-- the report-collector API as mounted in the MPC server, plus echo and metrics -/
def collectorMounted : List Entry :=
  flatten (.nest .new [.lit "query"] queryRouter) ++
  flatten (.route .new [.lit "echo"] .get "echo::router:handler") ++
  (flatten (.route .new [.lit "metrics"] .get "metrics::router:handler")).map (fun e => { e with layers := [.extension] })

theorem collector_table_open :
    (collectorMounted.all fun pe => (flatten mpcRouter).all fun e =>
      !(e.method == pe.method && overlap pe.path e.path) || noAuth e) = true := by decide

/-- On an MPC server started through ANY of the four arms, a client
that speaks the server's protocol and has neither certificate nor identity header — a report
collector — reaches the handler of every report-collector route (any query id / parameters). -/
theorem live_collector_reachable {Ident : Type} (d l : Bool) (a : StartArm) (ha : armFor d l = some a)
    (path : List String) (m : Method) :
    ∀ pe ∈ collectorMounted, matchPath pe.path path = true → pe.method = m →
      ∃ h, serve (Ident := Ident) .helper (flatten mpcRouter) a ⟨!d, .none, none⟩ path m = .resp (.handled h) := by
  intro pe hpe hm hmeth
  cases eq_wantedArm ha
  have hin : pe ∈ flatten mpcRouter := by
    -- the collector routes are the first three segments of the table, in another order
    rw [no_route_outside_tables.1]
    simp only [collectorMounted, List.mem_append] at hpe ⊢
    rcases hpe with (h | h) | h <;> simp only [h, true_or, or_true]
  obtain ⟨h, hh⟩ := respond_open (flatten mpcRouter) ⟨path, m, false, false⟩ pe
    (List.all_eq_true.mp collector_table_open pe hpe) hin hm hmeth
  -- on either arm such a client passes the handshake and its request is routed as anonymous
  exact ⟨h, by cases d <;> exact congrArg LiveResp.resp hh⟩

example : (⟨[.lit "query", .param, .lit "complete"], .get, "query::results::router:handler::<F>", [.extension]⟩ : Entry) ∈ collectorMounted :=
  List.mem_of_getElem? (i := 4) rfl

end IpaVerif.C20
