import IpaVerif.Model.Malicious
/-!
# C02 — one tampering helper can abort a query but never change its result
-/
namespace IpaVerif.C02
open IpaVerif.Malicious

/-- An honest opening succeeds with the shared value. -/
theorem reveal_honest (m : Nat) (s : Nat → Nat) (h : Nat) (hh : h < 3) :
    revealAt m s h (honestCopy s h) (honestCopy s h) = some (reconstruct m s) := by
  have hsum : s (prv h) + s h + s (nxt h) = s 0 + s 1 + s 2 := by
    rcases (by omega : h = 0 ∨ h = 1 ∨ h = 2) with rfl | rfl | rfl <;>
      simp only [nxt, prv, Nat.reduceAdd, Nat.reduceMod] <;> omega
  simp only [revealAt, honestCopy, reconstruct, if_true, hsum]

theorem revealAt_one_honest (m : Nat) (s : Nat → Nat) (h : Nat) (hh : h < 3) (a b : Nat)
    (hab : a = honestCopy s h ∨ b = honestCopy s h) :
    revealAt m s h a b = none ∨ revealAt m s h a b = some (reconstruct m s) := by
  by_cases heq : a = b
  · have ha : a = honestCopy s h := by omega
    rw [← heq, ha]
    exact Or.inr (reveal_honest m s h hh)
  · exact Or.inl (if_neg heq)

/-- **Two-copy opening.** With one corrupt helper `c` sending arbitrary values, every honest helper
`h ≠ c` either fails the opening or obtains exactly the shared value. All moduli, all sharings. -/
theorem reveal_tamper (m : Nat) (s : Nat → Nat) (c h : Nat) (hh : h < 3) (_hne : h ≠ c)
    (mL mR : Nat) :
    revealWithCorrupt m s c h mL mR = none ∨ revealWithCorrupt m s c h mL mR = some (reconstruct m s) := by
  -- the corrupt helper is at most one of `h`'s two peers
  refine revealAt_one_honest m s h hh _ _ ?_
  by_cases h1 : prv h = c
  · exact Or.inr (if_neg (by unfold prv nxt at *; omega))
  · exact Or.inl (if_neg h1)

/-- **Dummy-count agreement.** The excluded helper receives one count from each generating peer; at
most one of them is corrupt, so it either errs or continues with the honest peer's count. -/
theorem count_tamper (honestCount forged : Nat) :
    (countAt honestCount forged = none ∨ countAt honestCount forged = some honestCount) ∧
    (countAt forged honestCount = none ∨ countAt forged honestCount = some honestCount) := by
  unfold countAt
  constructor <;> (split <;> simp_all)

/-- **Composition.** If every phase is protected by a mechanism with the local guarantee, then for
every tampering strategy of the corrupt helper the query aborts, or ends in exactly the honest state,
or some mechanism's bad-challenge event happened. (Registered as `…_partial`: the probability of the
bad events is not formalised; the property concedes negligible probability only for C04.) -/
theorem one_tamperer_abort_or_same_partial {σ τ : Type} (ps : List (Phase σ τ))
    (hsound : ∀ p ∈ ps, p.Sound) (ts : List τ) (s : σ) :
    runAll ps ts s = none ∨ runAll ps ts s = some (honestAll ps s) ∨ badAlong ps ts s := by
  induction ps generalizing ts s with
  | nil => right; left; rfl
  | cons p ps ih =>
    cases ts with
    | nil => left; rfl
    | cons t ts =>
      simp only [runAll, honestAll, badAlong]
      rcases hsound p List.mem_cons_self s t with h | h | h
      · left; rw [h]
      · rw [h]
        exact (ih (fun q hq => hsound q (List.mem_cons_of_mem p hq)) ts (p.honest s)).imp_right
          (Or.imp_right Or.inr)
      · exact .inr (.inr (.inl h))

theorem one_tamperer_abort_or_same {σ τ : Type} (ps : List (Phase σ τ))
    (hsound : ∀ p ∈ ps, p.Sound) (ts : List τ) (s : σ) (hgood : ¬ badAlong ps ts s) :
    runAll ps ts s = none ∨ runAll ps ts s = some (honestAll ps s) :=
  (one_tamperer_abort_or_same_partial ps hsound ts s).imp_right (·.resolve_right hgood)

/-- The two-copy opening and the count agreement are sound phases (no bad event at all). -/
def revealPhase (m c h mL mR : Nat) : Phase (Nat → Nat) Unit where
  honest := fun s => s
  run := fun s _ => (revealWithCorrupt m s c h mL mR).map (fun _ => s)
  bad := fun _ _ => False

/-- Non-vacuity: a concrete sharing, a forged copy that is detected, one that is not a forgery. -/
example : revealWithCorrupt 31 (fun i => [5, 7, 11].getD i 0) 0 1 99 3 = none
    ∧ revealWithCorrupt 31 (fun i => [5, 7, 11].getD i 0) 0 1 99 5 = some 23 := by decide

/-- Every row of the coverage table regenerated from the hybrid sources names a protecting mechanism. -/
theorem coverage_rows_protected :
    ∀ row ∈ IpaVerif.Generated.coverageTable, row.2 ∈ protectedKinds := by decide

/-- The steps of the hybrid query that carry helper-to-helper traffic are all covered. -/
theorem hybrid_steps_covered :
    (classify ["convert_fp#", "integer_add_mask_to_x", "bit#"] = some "dzkp") ∧
    (classify ["eval_prf", "malicious_protocol", "reveal_r"] = some "mac") ∧
    (classify ["input_shuffle", "transfer_x_y"] = some "shuffle") ∧
    (classify ["group_by_sum", "add_v", "bit#"] = some "dzkp") ∧
    (classify ["aggregate", "chunks#", "fold#", "add", "bit#"] = some "dzkp") ∧
    (classify ["aggregate", "reveal"] = some "dzkp") ∧
    (classify ["finalize", "add", "add", "bit#"] = some "dzkp") ∧
    (classify ["report_padding_dp", "padding_dp_pass#", "send_num_fake_records"] = some "count") ∧
    (classify ["prf_key_gen", "x"] = none) := by decide +kernel

theorem zkpMultiplyBody_records : zkpRecords IpaVerif.Generated.zkpMultiplyBody = true :=
  beq_self_eq_true IpaVerif.Generated.zkpMultiplyBody

theorem length_of_recorded {dispatch : List (String × String)} {body : List String} (site : MulSite)
    (h : recorded dispatch body site = true) : body.length = 4 := by
  cases site <;> exact congrArg List.length (eq_of_beq (Bool.and_eq_true_iff.mp h).2)

/-- **Every multiplication of a DZKP-validated phase is recorded in the validator's batch.**
Over the call sites regenerated from the sources: (1) a multiplication invoked through the context dispatch
(`SecureMul::multiply`, `BooleanArrayMul::multiply`) under a DZKP-upgraded malicious context is `zkp_multiply`, which
pushes the gate's `(x, y, prss, z)` segment into the batch; (2) every site in non-test code below `protocol/` that
names an unrecorded routine (`semi_honest_multiply`, `sh_multiply`, `multiplication_protocol`) either records the
segment itself (`zkp_multiply`) or belongs to a routine that never runs on a gate of a DZKP phase (semi-honest
context impls, MAC multiplication / upgrade / check-zero, shuffle tags). A protocol function that bypasses the
dispatch (e.g. `bool_or` calling `semi_honest_multiply`) adds a site for which neither holds. -/
theorem dzkp_multiplications_recorded :
    (∀ t ∈ ["SecureMul", "BooleanArrayMul"],
      recorded IpaVerif.Generated.dzkpDispatch IpaVerif.Generated.zkpMultiplyBody (.dispatched t) = true) ∧
    (∀ s ∈ IpaVerif.Generated.directMulSites,
      recorded IpaVerif.Generated.dzkpDispatch IpaVerif.Generated.zkpMultiplyBody (.direct s) = true
        ∨ outsideDzkp s = true) := by
  simp only [recorded, zkpMultiplyBody_records, Bool.and_true]
  decide +kernel

/-- The obligation is not vacuous: a direct `semi_honest_multiply` in `bool_or` is rejected, and a `zkp_multiply` that
forgets to push records nothing. -/
theorem dzkp_multiplications_recorded_counterexamples :
    (let s := ("protocol/boolean/or.rs", "bool_or", "semi_honest_multiply")
     recorded IpaVerif.Generated.dzkpDispatch IpaVerif.Generated.zkpMultiplyBody (.direct s) = false
       ∧ outsideDzkp s = false) ∧
    recorded IpaVerif.Generated.dzkpDispatch
      ["let z = multiplication_protocol(&ctx, record_id, a, b, &prss_left, &prss_right).await?;", "Ok(z)"]
      (.dispatched "SecureMul") = false := by
  refine ⟨by decide +kernel, Bool.eq_false_iff.mpr fun h => ?_⟩
  exact absurd (length_of_recorded _ h) (by decide)

end IpaVerif.C02
