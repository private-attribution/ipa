import IpaVerif.Model.Reshard
import IpaVerif.Proofs.Buckets
import IpaVerif.Proofs.Outgoing
/-!
# C19 — resharding moves each record to its chosen shard once, in the same order on all helpers

Theorems about `IpaVerif.Reshard` for every shard count `n`, every input, every shard picker and
EVERY merge schedule of the receive side. Core Lean only.
-/
namespace IpaVerif.C19
open IpaVerif.Reshard IpaVerif.Buckets

theorem recvStep_inv {α : Type} (st : Recv α) (s0 s : Nat) :
    (recvStep st s0).buckets s ++ (recvStep st s0).chans s = st.buckets s ++ st.chans s := by
  unfold recvStep
  split
  · rfl
  · next x rest h =>
    simp only [upd]
    split
    · subst s; simp [h]
    · rfl

/-- Invariant of the receive loop: what is in a bucket followed by what is still in flight from that
source is constant. -/
theorem runSched_inv {α : Type} (sched : List Nat) : ∀ (st : Recv α) (s : Nat),
    (runSched st sched).buckets s ++ (runSched st sched).chans s = st.buckets s ++ st.chans s := by
  induction sched with
  | nil => intro st s; rfl
  | cons s0 rest ih => intro st s; exact (ih (recvStep st s0) s).trans (recvStep_inv st s0 s)

theorem reshard_congr {α : Type} (n : Nat) (pick : Nat → Nat → α → Nat) {inputs inputs' : Nat → List α}
    (h : ∀ s, s < n → inputs s = inputs' s) (d : Nat) : reshard n pick inputs d = reshard n pick inputs' d :=
  flatMap_range_congr fun s hs => congrArg (outgoing pick s d 0) (h s hs)

/-- For EVERY merge schedule that delivers all messages, shard `d`
ends with `concat over sources s (in index order) of [records of s routed to d, in input order]` —
a function of the inputs and the picker only, whatever the timing of the exchanges. -/
theorem reshard_order_deterministic {α : Type} (n : Nat) (pick : Nat → Nat → α → Nat)
    (inputs : Nat → List α) (d : Nat) (sched : List Nat)
    (hd : drained n (runSched (initRecv pick inputs d) sched)) :
    resultUnder n pick inputs d sched = reshard n pick inputs d := by
  refine flatMap_range_congr fun s hs => ?_
  have := runSched_inv sched (initRecv pick inputs d) s
  rwa [hd s hs, List.append_nil] at this

/-- The same inputs under two complete schedules give the same result list: both are the schedule-free
`reshard`. -/
theorem reshard_same_order_across_helpers {α : Type} (n : Nat) (pick : Nat → Nat → α → Nat)
    (inputs : Nat → List α) (d : Nat) (sched sched' : List Nat)
    (h : drained n (runSched (initRecv pick inputs d) sched))
    (h' : drained n (runSched (initRecv pick inputs d) sched')) :
    resultUnder n pick inputs d sched = resultUnder n pick inputs d sched' := by
  rw [reshard_order_deterministic n pick inputs d sched h, reshard_order_deterministic n pick inputs d sched' h']

-- non-vacuity: two different complete schedules on a concrete instance
example : drained 2 (runSched (initRecv (fun _ i (_ : Nat) => i % 2) (fun s => [10 * s, 10 * s + 1, 10 * s + 2]) 0) [1, 0, 0, 1]) := by
  intro s hs
  match s, hs with
  | 0, _ => decide
  | 1, _ => decide
example : resultUnder 2 (fun _ i (_ : Nat) => i % 2) (fun s => [10 * s, 10 * s + 1, 10 * s + 2]) 0 [1, 0, 0, 1] = [0, 2, 10, 12] := by decide
example : resultUnder 2 (fun _ i (_ : Nat) => i % 2) (fun s => [10 * s, 10 * s + 1, 10 * s + 2]) 0 [0, 1, 1, 0] = [0, 2, 10, 12] := by decide

theorem outgoing_perm {α : Type} (n : Nat) (pick : Nat → Nat → α → Nat) (src : Nat)
    (hp : ∀ i x, pick src i x < n) (xs : List α) (i : Nat) :
    ((List.range n).flatMap fun d => outgoing pick src d i xs).Perm xs := by
  have h := (buckets_perm_of_lt (fun p : α × Nat => pick src p.2 p.1) (fun _ l => l) (fun _ _ => .rfl)
    (xs.zipIdx i) n (fun p _ => hp p.2 p.1)).map Prod.fst
  rw [List.map_flatMap, List.zipIdx_map_fst] at h
  simpa only [outgoing_eq_filter] using h

theorem reshard_concat_perm {α : Type} (n : Nat) (pick : Nat → Nat → α → Nat) (inputs : Nat → List α)
    (hp : ∀ s i x, pick s i x < n) :
    ((List.range n).flatMap (reshard n pick inputs)).Perm ((List.range n).flatMap inputs) :=
  (flatMap_swap_perm _ _ fun d s => outgoing pick s d 0 (inputs s)).trans
    (flatMap_perm_congr fun s _ => outgoing_perm n pick s (hp s) (inputs s) 0)

def sumN (n : Nat) (f : Nat → Nat) : Nat := ((List.range n).map f).sum

/-- (1) whatever shard `d` ends up holding was an input record of some shard whose
picker value is `d` — nothing lands on a shard it was not selected for; (2) for every predicate, the
number of records satisfying it is the same before and after over all shards — nothing is lost or
duplicated (so the multiset of records over all shards is unchanged). -/
theorem reshard_exact {α : Type} (n : Nat) (pick : Nat → Nat → α → Nat) (inputs : Nat → List α)
    (hp : ∀ s i x, pick s i x < n) :
    (∀ d x, x ∈ reshard n pick inputs d → ∃ s k, s < n ∧ (inputs s)[k]? = some x ∧ pick s k x = d) ∧
    (∀ p : α → Bool, sumN n (fun d => (reshard n pick inputs d).countP p) = sumN n (fun s => (inputs s).countP p)) := by
  refine ⟨fun d x hx => ?_, fun p => ?_⟩
  · obtain ⟨s, hs, hxs⟩ := List.mem_flatMap.mp hx
    rw [outgoing_eq_filter] at hxs
    obtain ⟨⟨x', k⟩, hm, rfl⟩ := List.mem_map.mp hxs
    obtain ⟨hz, hp⟩ := List.mem_filter.mp hm
    exact ⟨s, k, List.mem_range.mp hs, List.mem_zipIdx_iff_getElem?.mp hz, beq_iff_eq.mp hp⟩
  · have h := (reshard_concat_perm n pick inputs hp).countP_eq p
    rwa [List.countP_flatMap, List.countP_flatMap] at h

/-- Multiset form: concatenating all shards' outputs is a permutation of concatenating all shards' inputs
(`reshard_concat_perm`; the `DecidableEq` instance is not needed). -/
theorem reshard_perm {α : Type} [DecidableEq α] (n : Nat) (pick : Nat → Nat → α → Nat) (inputs : Nat → List α)
    (hp : ∀ s i x, pick s i x < n) :
    ((List.range n).flatMap (reshard n pick inputs)).Perm ((List.range n).flatMap inputs) :=
  reshard_concat_perm n pick inputs hp

example : ∀ (s i x : Nat), (fun (_ i _ : Nat) => i % 3) s i x < 3 := fun _ i _ => Nat.mod_lt i (by decide)

theorem sendLoop_ok {α : Type} (hint : Nat) (items : List (Option α)) : ∀ i,
    (sendLoop hint i items).2 = false → items = (sendLoop hint i items).1.map some := by
  induction items with
  | nil => intro i _; rfl
  | cons x xs ih =>
    intro i h
    cases x with
    | none => cases h
    | some v =>
      simp only [sendLoop] at h ⊢
      split at h
      · cases h
      · next hlt => rw [if_neg hlt]; exact congrArg (some v :: ·) (ih (i + 1) h)

theorem sendLoop_none {α : Type} (hint i : Nat) {items : List (Option α)} (h : none ∈ items) :
    (sendLoop hint i items).2 = true := by
  cases hf : (sendLoop hint i items).2 with
  | true => rfl
  | false => rw [sendLoop_ok hint items i hf] at h; simp at h

theorem any_ownFails {α : Type} (n : Nat) (items : Nat → List (Option α)) (hints : Nat → Nat) :
    (List.range n).any (ownFails items hints) = true ↔ ∃ s, s < n ∧ ownFails items hints s = true := by
  simp [List.any_eq_true]

theorem shardResult_eq {α : Type} (n : Nat) (pick : Nat → Nat → α → Nat) (items : Nat → List (Option α))
    (hints : Nat → Nat) (d : Nat) :
    shardResult n pick items hints d =
      if (List.range n).any (ownFails items hints) then none
      else some (reshard n pick (fun s => (sendLoop (hints s) 0 (items s)).1) d) := rfl

/-- If the input stream of ANY shard yields an `Err` item, or more items
than its size hint, no shard returns `Ok`; and
whenever a shard does return `Ok`, every shard's stream was error-free and the result is the
resharding of ALL their items (no record silently dropped). -/
theorem reshard_error_fails {α : Type} (n : Nat) (pick : Nat → Nat → α → Nat)
    (items : Nat → List (Option α)) (hints : Nat → Nat) (d : Nat) :
    (∀ s, s < n → (sendLoop (hints s) 0 (items s)).2 = true → shardResult n pick items hints d = none) ∧
    (∀ l, shardResult n pick items hints d = some l →
        (∀ s, s < n → ∀ x ∈ items s, x ≠ none) ∧
        l = reshard n pick (fun s => (items s).filterMap id) d) := by
  rw [shardResult_eq]
  refine ⟨fun s hs hf => if_pos ((any_ownFails n items hints).mpr ⟨s, hs, hf⟩), fun l hl => ?_⟩
  split at hl
  · cases hl
  · next hany =>
    have hall : ∀ s, s < n → items s = (sendLoop (hints s) 0 (items s)).1.map some := fun s hs =>
      sendLoop_ok _ _ 0 (Bool.eq_false_iff.mpr fun hf => hany ((any_ownFails n items hints).mpr ⟨s, hs, hf⟩))
    refine ⟨fun s hs x hx => ?_, ?_⟩
    · rw [hall s hs] at hx
      obtain ⟨_, _, rfl⟩ := List.mem_map.mp hx
      nofun
    · rw [← Option.some.inj hl]
      refine reshard_congr n pick (fun s hs => ?_) d
      conv => rhs; rw [hall s hs]
      simp

theorem sendLoop_short {α : Type} (hint : Nat) (xs : List α) : ∀ i, i + xs.length ≤ hint →
    sendLoop hint i (xs.map some) = (xs, false) := by
  induction xs with
  | nil => intro i _; rfl
  | cons x xs ih =>
    intro i h
    rw [List.length_cons] at h
    simp only [List.map_cons, sendLoop]
    rw [if_neg (by omega), ih (i + 1) (by omega)]

/-- Streams that are error-free and not longer than their size hint — possibly
much SHORTER than the hint, possibly empty — reshard successfully to exactly `reshard`. -/
theorem short_input_ok {α : Type} (n : Nat) (pick : Nat → Nat → α → Nat) (inputs : Nat → List α)
    (hints : Nat → Nat) (hh : ∀ s, s < n → (inputs s).length ≤ hints s) (d : Nat) :
    shardResult n pick (fun s => (inputs s).map some) hints d = some (reshard n pick inputs d) := by
  have hs : ∀ s, s < n → sendLoop (hints s) 0 ((inputs s).map some) = (inputs s, false) :=
    fun s h => sendLoop_short (hints s) (inputs s) 0 (by simpa using hh s h)
  rw [shardResult_eq, if_neg]
  · exact congrArg some (reshard_congr n pick (fun s h => congrArg Prod.fst (hs s h)) d)
  · rw [any_ownFails]
    rintro ⟨s, h, hf⟩
    rw [ownFails, hs s h] at hf
    cases hf

section outcome
variable {α : Type} (n : Nat) (pick : Nat → Nat → α → Nat) {items : Nat → List (Option α)} {hints : Nat → Nat} {d : Nat}

theorem shardOutcome_err (h : ownFails items hints d = true) : shardOutcome n pick items hints d = .err :=
  if_pos h

theorem shardOutcome_hang (h : ownFails items hints d = false) (hs : ∃ s, s < n ∧ ownFails items hints s = true) :
    shardOutcome n pick items hints d = .hang := by
  rw [shardOutcome, if_neg (by simp [h]), if_pos ((any_ownFails n items hints).mpr hs)]

theorem shardOutcome_ok (hno : ¬ ∃ s, s < n ∧ ownFails items hints s = true) (hd : d < n) :
    shardOutcome n pick items hints d = .ok (reshard n pick (fun s => (sendLoop (hints s) 0 (items s)).1) d) := by
  rw [shardOutcome, if_neg (fun h => hno ⟨d, hd, h⟩), if_neg (mt (any_ownFails n items hints).mp hno)]

theorem shardOutcome_ne_ok (hs : ∃ s, s < n ∧ ownFails items hints s = true) (l : List α) :
    shardOutcome n pick items hints d ≠ .ok l := by
  cases h : ownFails items hints d with
  | true => rw [shardOutcome_err n pick h]; nofun
  | false => rw [shardOutcome_hang n pick h hs]; nofun

end outcome

/-- `shardOutcome` refines `shardResult`: a shard returns `Ok l` in the one iff in the other. -/
theorem shardOutcome_ok_iff {α : Type} (n : Nat) (pick : Nat → Nat → α → Nat)
    (items : Nat → List (Option α)) (hints : Nat → Nat) (d : Nat) (hd : d < n) (l : List α) :
    shardOutcome n pick items hints d = .ok l ↔ shardResult n pick items hints d = some l := by
  rw [shardResult_eq]
  by_cases hany : ∃ s, s < n ∧ ownFails items hints s = true
  · rw [if_pos ((any_ownFails n items hints).mpr hany)]
    exact ⟨fun h => absurd h (shardOutcome_ne_ok n pick hany l), nofun⟩
  · rw [if_neg (mt (any_ownFails n items hints).mp hany), shardOutcome_ok n pick hany hd]
    exact ⟨fun h => congrArg some (Outcome.ok.inj h), fun h => congrArg Outcome.ok (Option.some.inj h)⟩

/-- If the input stream of shard `s` fails (an `Err` item or more items
than its size hint), then `s` itself returns `Err`; every shard whose own stream is fine never returns
(it is not told about the failure: the failing shard drops its channels unclosed); hence NO shard
returns `Ok` — no shard continues with a record set from which records of the failed stream are missing. -/
theorem reshard_failure_outcomes {α : Type} (n : Nat) (pick : Nat → Nat → α → Nat)
    (items : Nat → List (Option α)) (hints : Nat → Nat) (s : Nat) (hs : s < n)
    (hf : ownFails items hints s = true) :
    shardOutcome n pick items hints s = .err ∧
    (∀ d, ownFails items hints d = false → shardOutcome n pick items hints d = .hang) ∧
    (∀ d l, shardOutcome n pick items hints d ≠ .ok l) :=
  ⟨shardOutcome_err n pick hf, fun _ hd => shardOutcome_hang n pick hd ⟨s, hs, hf⟩,
    fun _ l => shardOutcome_ne_ok n pick ⟨s, hs, hf⟩ l⟩

/-- conversely a shard that waits forever or fails witnesses a failed input stream -/
theorem reshard_not_ok_only_on_failure {α : Type} (n : Nat) (pick : Nat → Nat → α → Nat)
    (items : Nat → List (Option α)) (hints : Nat → Nat) (d : Nat) (hd : d < n)
    (h : ∀ l, shardOutcome n pick items hints d ≠ .ok l) :
    ∃ s, s < n ∧ ownFails items hints s = true :=
  Classical.byContradiction fun hno => h _ (shardOutcome_ok n pick hno hd)

example : shardResult 2 (fun _ i (_ : Nat) => i % 2) (fun s => [some (10 * s), none]) (fun _ => 5) 0 = none := by decide
example : shardResult 2 (fun _ i (_ : Nat) => i % 2) (fun s => [some (10 * s), some 7]) (fun _ => 5) 1 = some [7, 7] := by decide
-- exactly one failing shard (shard 1, `Err` after its first record): it fails, shard 0 waits forever
example : (List.range 2).map (shardOutcome 2 (fun _ i (_ : Nat) => i % 2) (fun s => if s = 1 then [some 10, none, some 11] else [some 1, some 2]) (fun _ => 5))
    = [.hang, .err] := by decide
-- a stream longer than its size hint on shard 0 only
example : (List.range 3).map (shardOutcome 3 (fun s _ (_ : Nat) => s) (fun s => [some s, some (s + 10)]) (fun s => if s = 0 then 1 else 2))
    = [.err, .hang, .hang] := by decide

/-- The defect of channels limited to the size hint (`c19.reshard try 2 1,1,1,1/0,0,0 0,-1 -`): shard 1 holds three
records, all routed to shard 0, behind a size hint of 2. With channel limit = size hint (`shardOutcomeUnfixed`) shard 1
fails at its third record while shard 0 returns `Ok` with two of the three records routed to it — a record is dropped
although the input stream failed. With the code's limit (size hint + 1) shard 0 does not return `Ok`. -/
theorem shardOutcomeUnfixed_counterexample :
    let pick : Nat → Nat → Nat → Nat := fun s _ _ => 1 - s
    let items : Nat → List (Option Nat) := fun s => if s = 0 then [some 0, some 1, some 2, some 3] else [some 1000, some 1001, some 1002]
    let hints : Nat → Nat := fun s => if s = 0 then 4 else 2
    (List.range 2).map (shardOutcomeUnfixed 2 pick items hints) = [.ok [1000, 1001], .err] ∧
    (List.range 2).map (shardOutcome 2 pick items hints) = [.hang, .err] := by decide

/-- without a failing stream the two models agree: the channel limit matters only when an input fails -/
theorem shardOutcomeUnfixed_eq_of_no_failure {α : Type} (n : Nat) (pick : Nat → Nat → α → Nat)
    (items : Nat → List (Option α)) (hints : Nat → Nat) (d : Nat)
    (h : ∀ s, s < n → ownFails items hints s = false) (hd : d < n) :
    shardOutcomeUnfixed n pick items hints d = shardOutcome n pick items hints d := by
  have h2 : (List.range n).any (fun s => s != d && ownFails items hints s && !autoClosedUnfixed pick items hints s d) = false := by
    rw [List.any_eq_false]; intro s hs; simp [h s (List.mem_range.mp hs)]
  rw [shardOutcome_ok n pick (fun ⟨s, hs, hf⟩ => by rw [h s hs] at hf; cases hf) hd]
  simp [shardOutcomeUnfixed, h d hd, h2]

/-- The splitter is a transparent adapter: the send loop sees through it exactly the tags
of the `Ok` items the raw stream yields up to its first `Err` (then the `Err`), and `k_buf` ends as the data
records of exactly those items, in order — position `i` of `k_buf` belongs to the `i`-th tag handed on. -/
theorem runSplitter_spec {κ α : Type} : ∀ (evs : List (Ev κ α)) (buf : List κ),
    runSplitter buf evs =
      (buf ++ (awaitItems evs).1.map Prod.fst,
       ((awaitItems evs).1.map fun ka => some ka.2) ++ errTail (awaitItems evs).2) := by
  intro evs
  induction evs with
  | nil => intro buf; simp [runSplitter, splitterPoll, awaitItems, errTail]
  | cons ev rest ih =>
    intro buf
    cases ev <;> simp [runSplitter, splitterPoll, awaitItems, errTail, ih]

theorem awaitItems_strip {κ α : Type} : ∀ (evs : List (Ev κ α)), awaitItems (stripPending evs) = awaitItems evs := by
  intro evs
  induction evs with
  | nil => rfl
  | cons ev rest ih => cases ev <;> simp [stripPending, awaitItems, ih]

/-- For EVERY stall pattern: the `k_buf` and the item sequence handed to the resharding are
those of the same stream with all `Pending` answers removed. -/
theorem stalls_invisible {κ α : Type} (evs : List (Ev κ α)) (buf : List κ) :
    runSplitter buf evs = runSplitter buf (stripPending evs) := by
  rw [runSplitter_spec, runSplitter_spec, awaitItems_strip]

/-- two polled streams that differ only in where (and how often) they answer `Pending` -/
theorem stalls_invisible' {κ α : Type} (evs evs' : List (Ev κ α)) (buf : List κ)
    (h : stripPending evs = stripPending evs') : runSplitter buf evs = runSplitter buf evs' := by
  rw [stalls_invisible evs, stalls_invisible evs', h]

/-- inserting any number of `Pending` answers anywhere changes nothing -/
theorem stripPending_insert {κ α : Type} (pre post : List (Ev κ α)) (k : Nat) :
    stripPending (pre ++ List.replicate k .pending ++ post) = stripPending (pre ++ post) := by
  induction pre with
  | nil => induction k with
    | zero => rfl
    | succ k ih => exact ih
  | cons e pre ih => cases e <;> simp only [List.cons_append, stripPending, ih]

/-- an error-free polled stream: every `Ok` item is kept / handed on, none is dropped, `k_buf` stays aligned -/
theorem splitter_drops_nothing {κ α : Type} (items : List (κ × α)) (evs : List (Ev κ α))
    (h : stripPending evs = items.map fun ka => .ready ka.1 ka.2) :
    runSplitter [] evs = (items.map Prod.fst, items.map fun ka => some ka.2) := by
  rw [stalls_invisible, h, runSplitter_spec]
  have : ∀ l : List (κ × α), awaitItems (l.map fun ka => (Ev.ready ka.1 ka.2 : Ev κ α)) = (l, false) := by
    intro l
    induction l with
    | nil => rfl
    | cons x xs ih => simp [awaitItems, ih]
  rw [this]; simp [errTail]

/-- `reshard_aad` on every shard: the outcome (kept data records, received tags, or
failure) is the same whatever the timing of every shard's input stream. -/
theorem aad_stalls_invisible {κ α : Type} (n : Nat) (pick : Nat → Nat → α → Nat) (evs evs' : Nat → List (Ev κ α))
    (hints : Nat → Nat) (d : Nat) (h : ∀ s, stripPending (evs s) = stripPending (evs' s)) :
    aadOutcome n pick evs hints d = aadOutcome n pick evs' hints d := by
  have hi : aadItems evs = aadItems evs' := by
    funext s; simp only [aadItems]; rw [stalls_invisible' _ _ _ (h s)]
  simp only [aadOutcome, hi, stalls_invisible' _ _ _ (h d)]

/-- the same for `reshard_try_stream` / `reshard_stream` called directly on a polled stream -/
theorem polled_stalls_invisible {α : Type} (n : Nat) (pick : Nat → Nat → α → Nat) (evs evs' : Nat → List (Ev Unit α))
    (hints : Nat → Nat) (d : Nat) (h : ∀ s, stripPending (evs s) = stripPending (evs' s)) :
    polledOutcome n pick evs hints d = polledOutcome n pick evs' hints d := by
  have hi : polledItems evs = polledItems evs' := by
    funext s; simp only [polledItems]; rw [← awaitItems_strip (evs s), h s, awaitItems_strip]
  simp only [polledOutcome, hi]

/-- the direct call and the call through the splitter hand the same items to the send loop -/
theorem polledItems_eq_aadItems {α : Type} (evs : Nat → List (Ev Unit α)) : polledItems evs = aadItems evs := by
  funext s; simp only [polledItems, aadItems]; rw [runSplitter_spec]

/-- Error-free input streams within their size hints, ANY stall pattern: every shard returns
`Ok`, keeps ALL its own data records in input order, and receives the schedule-free resharding of ALL tags
(to which `reshard_exact` / `reshard_perm` apply: each tag on its chosen shard, exactly once). -/
theorem aad_exact {κ α : Type} (n : Nat) (pick : Nat → Nat → α → Nat) (inputs : Nat → List (κ × α))
    (evs : Nat → List (Ev κ α)) (hints : Nat → Nat) (d : Nat) (hd : d < n)
    (hev : ∀ s, stripPending (evs s) = (inputs s).map fun ka => .ready ka.1 ka.2)
    (hh : ∀ s, s < n → (inputs s).length ≤ hints s) :
    aadOutcome n pick evs hints d =
      .ok ((inputs d).map Prod.fst) (reshard n pick (fun s => (inputs s).map Prod.snd) d) := by
  have hi : aadItems evs = fun s => ((inputs s).map Prod.snd).map some := by
    funext s; simp only [aadItems]; rw [splitter_drops_nothing (inputs s) (evs s) (hev s)]; simp
  have hso := short_input_ok n pick (fun s => (inputs s).map Prod.snd) hints (by intro s hs; simpa using hh s hs) d
  have hok := (shardOutcome_ok_iff n pick (fun s => ((inputs s).map Prod.snd).map some) hints d hd _).mpr hso
  simp only [aadOutcome, hi, hok]
  rw [splitter_drops_nothing (inputs d) (evs d) (hev d)]

/-- Multiset form: over all shards, the tags received are a permutation of the tags put in,
for every stall pattern of every shard's input. -/
theorem aad_tags_perm {κ α : Type} [DecidableEq α] (n : Nat) (pick : Nat → Nat → α → Nat) (inputs : Nat → List (κ × α))
    (evs : Nat → List (Ev κ α)) (hints : Nat → Nat) (hp : ∀ s i x, pick s i x < n)
    (hev : ∀ s, stripPending (evs s) = (inputs s).map fun ka => .ready ka.1 ka.2)
    (hh : ∀ s, s < n → (inputs s).length ≤ hints s) :
    ∃ tags : Nat → List α, (∀ d, d < n → aadOutcome n pick evs hints d = .ok ((inputs d).map Prod.fst) (tags d)) ∧
      ((List.range n).flatMap tags).Perm ((List.range n).flatMap fun s => (inputs s).map Prod.snd) :=
  ⟨reshard n pick (fun s => (inputs s).map Prod.snd), fun d hd => aad_exact n pick inputs evs hints d hd hev hh,
    reshard_perm n pick _ hp⟩

/-- an `Err` answer anywhere in the polled stream of shard `s` makes its send loop fail -/
theorem err_answer_fails {κ α : Type} (evs : Nat → List (Ev κ α)) (hints : Nat → Nat) (s : Nat)
    (h : Ev.err ∈ evs s) : ownFails (aadItems evs) hints s = true := by
  have key : ∀ (l : List (Ev κ α)), Ev.err ∈ l → (awaitItems l).2 = true := by
    intro l
    induction l with
    | nil => intro h; cases h
    | cons e rest ih =>
      intro h
      cases e with
      | err => rfl
      | pending => simp only [awaitItems]; exact ih (by simpa using h)
      | ready k a => simp only [awaitItems]; exact ih (by simpa using h)
  rw [ownFails, aadItems, runSplitter_spec, key _ h]
  exact sendLoop_none _ _ (by simp [errTail])

/-- If the send loop of shard `s` fails on what the splitter hands it (an `Err` answer of its input
stream, wherever it sits among the stalls — `err_answer_fails` — or more items than the size hint), `s` returns `Err`
and NO shard returns `Ok`. -/
theorem aad_error_fails {κ α : Type} (n : Nat) (pick : Nat → Nat → α → Nat) (evs : Nat → List (Ev κ α))
    (hints : Nat → Nat) (s : Nat) (hs : s < n) (hf : ownFails (aadItems evs) hints s = true) :
    aadOutcome n pick evs hints s = .err ∧ ∀ d kept tags, aadOutcome n pick evs hints d ≠ .ok kept tags := by
  obtain ⟨h1, _, h3⟩ := reshard_failure_outcomes n pick (aadItems evs) hints s hs hf
  refine ⟨by simp [aadOutcome, h1], ?_⟩
  intro d kept tags
  unfold aadOutcome
  cases h : shardOutcome n pick (aadItems evs) hints d with
  | ok l => exact absurd h (h3 d l)
  | err => simp
  | hang => simp

/-- a splitter whose `done` flag is also set by `Pending` (`runSplitterDoneFlag`): one stall in the middle of a
three-record stream and the last record is gone — `k_buf` and the tags both end after two records, and no error is reported;
the real splitter keeps all three. -/
theorem splitter_done_flag_counterexample :
    runSplitterDoneFlag [] [Ev.ready 10 1, .ready 11 2, .pending, .ready 12 3] = ([10, 11], [some 1, some 2]) ∧
    runSplitter [] [Ev.ready 10 1, .ready 11 2, .pending, .ready 12 3] = ([10, 11, 12], [some 1, some 2, some 3]) := by
  decide

-- the hypotheses are satisfiable: a stream that stalls before its first item, twice in the middle and before its end
example : stripPending [Ev.pending, .ready 10 1, .pending, .pending, .ready 11 2, .pending]
    = ([(10, 1), (11, 2)].map fun ka => Ev.ready ka.1 ka.2) := by decide
example : (List.range 2).map (aadOutcome 2 (fun _ _ a => a % 2)
      (fun s => if s = 0 then [Ev.pending, .ready 10 1, .pending, .ready 11 2] else [.ready 20 3, .ready 21 4, .pending]) (fun _ => 2))
    = [.ok [10, 11] [2, 4], .ok [20, 21] [1, 3]] := by decide
example : (List.range 2).map (aadOutcome 2 (fun _ _ a => a % 2)
      (fun s => if s = 0 then [Ev.pending, .ready 10 1, .pending, .err, .ready 11 2] else [.ready 20 3, .ready 21 4, .pending]) (fun _ => 2))
    = [.err, .hang] := by decide

end IpaVerif.C19
