import IpaVerif.Props.C08Field
import IpaVerif.Generated.DzkpConstants
/-!
# C08 — replicated-share local arithmetic and the DZKP proof-field constants

* A 3-party replicated sharing of `x` is `s : Fin 3 → F` with helper `i` holding `(s i, s (i+1))`;
  `reconstruct s = s 0 + s 1 + s 2`. The local operations of `AdditiveShare` (`+`, `-`, unary `-`,
  `· const`) act component-wise on the pair, hence helper-wise on `s`: they keep the sharing
  consistent and commute with `reconstruct` (all three prime fields, all canonical shares).
  Stated over the modelled operators `PrimeField.add P …`; `Model/Sharing` works over their `% p`
  specification `modAlg p`.
* `INVERSE_OF_TWO`, `MINUS_ONE_HALF`, `MINUS_TWO` of `dzkp_field.rs` (literals regenerated from the
  source): `2·INVERSE_OF_TWO = 1`, `MINUS_ONE_HALF = -INVERSE_OF_TWO`, `MINUS_TWO = -2`, all canonical.
-/
namespace IpaVerif.C08
open IpaVerif.PrimeField IpaVerif.Generated

/-- helper `i`'s pair of a sharing -/
def helperShare (s : Fin 3 → ℕ) (i : Fin 3) : ℕ × ℕ := (s i, s (i + 1))

/-- the local operations of `AdditiveShare` (component-wise on `(left, right)`) -/
def shareAdd (P : Params) (a b : ℕ × ℕ) : ℕ × ℕ := (add P a.1 b.1, add P a.2 b.2)
def shareSub (P : Params) (a b : ℕ × ℕ) : ℕ × ℕ := (sub P a.1 b.1, sub P a.2 b.2)
def shareNeg (P : Params) (a : ℕ × ℕ) : ℕ × ℕ := (neg P a.1, neg P a.2)
def shareMulConst (P : Params) (a : ℕ × ℕ) (c : ℕ) : ℕ × ℕ := (mul P a.1 c, mul P a.2 c)

def reconstruct (P : Params) (s : Fin 3 → ℕ) : ℕ := add P (add P (s 0) (s 1)) (s 2)

/-- local operations keep the replicated sharing consistent: helper `i`'s result is helper `i`'s
pair of the component-wise result. -/
theorem share_ops_consistent (P : Params) (s t : Fin 3 → ℕ) (c : ℕ) (i : Fin 3) :
    shareAdd P (helperShare s i) (helperShare t i) = helperShare (fun j => add P (s j) (t j)) i ∧
    shareSub P (helperShare s i) (helperShare t i) = helperShare (fun j => sub P (s j) (t j)) i ∧
    shareNeg P (helperShare s i) = helperShare (fun j => neg P (s j)) i ∧
    shareMulConst P (helperShare s i) c = helperShare (fun j => mul P (s j) c) i :=
  ⟨rfl, rfl, rfl, rfl⟩

section
variable {P : Params} (hs : ArithSpec P)
include hs

/-- local share arithmetic commutes with reconstruction -/
theorem share_arith_reconstructs {s t : Fin 3 → ℕ} {c : ℕ} (hsl : ∀ i, s i < P.p) (htl : ∀ i, t i < P.p) (hc : c < P.p) :
    reconstruct P (fun j => add P (s j) (t j)) = add P (reconstruct P s) (reconstruct P t) ∧
    reconstruct P (fun j => sub P (s j) (t j)) = sub P (reconstruct P s) (reconstruct P t) ∧
    reconstruct P (fun j => neg P (s j)) = neg P (reconstruct P s) ∧
    reconstruct P (fun j => mul P (s j) c) = mul P (reconstruct P s) c := by
  have : NeZero P.p := ⟨Nat.ne_of_gt (Nat.zero_lt_of_lt hc)⟩
  -- lift the shares to `ZMod p`; both sides become `val` of a ring expression
  obtain ⟨σ, rfl⟩ : ∃ σ : Fin 3 → ZMod P.p, (fun i => (σ i).val) = s :=
    ⟨fun i => s i, funext fun i => ZMod.val_natCast_of_lt (hsl i)⟩
  obtain ⟨τ, rfl⟩ : ∃ τ : Fin 3 → ZMod P.p, (fun i => (τ i).val) = t :=
    ⟨fun i => t i, funext fun i => ZMod.val_natCast_of_lt (htl i)⟩
  obtain ⟨γ, rfl⟩ := exists_val hc
  simp only [reconstruct, add_val hs, sub_val hs, neg_val hs, mul_val hs]
  exact ⟨congrArg _ (by ring), congrArg _ (by ring), congrArg _ (by ring), congrArg _ (by ring)⟩
end

theorem share_arith_reconstructs_prime_fields (P : Params) (hP : P ∈ primeFields) {s t : Fin 3 → ℕ} {c : ℕ}
    (hsl : ∀ i, s i < P.p) (htl : ∀ i, t i < P.p) (hc : c < P.p) :
    reconstruct P (fun j => add P (s j) (t j)) = add P (reconstruct P s) (reconstruct P t) ∧
    reconstruct P (fun j => sub P (s j) (t j)) = sub P (reconstruct P s) (reconstruct P t) ∧
    reconstruct P (fun j => neg P (s j)) = neg P (reconstruct P s) ∧
    reconstruct P (fun j => mul P (s j) c) = mul P (reconstruct P s) c :=
  share_arith_reconstructs (prime_fields_arith P hP) hsl htl hc

/-- Non-vacuity: a sharing of `30` in Fp31 by boundary shares. -/
example : (∀ i : Fin 3, (![30, 30, 1] i : ℕ) < fp31.p) ∧ reconstruct fp31 ![30, 30, 1] = 30 := by decide

/-! ### DZKP constants (`impl DZKPBaseField for Fp61BitPrime`) -/
theorem dzkp_constants :
    dzkpInverseOfTwo < fp61.p ∧ dzkpMinusOneHalf < fp61.p ∧ dzkpMinusTwo < fp61.p ∧
    mul fp61 2 dzkpInverseOfTwo = 1 ∧
    dzkpMinusOneHalf = neg fp61 dzkpInverseOfTwo ∧
    dzkpMinusTwo = neg fp61 2 ∧
    add fp61 (mul fp61 dzkpMinusOneHalf 2) 1 = 0 ∧
    mul fp61 dzkpMinusTwo dzkpMinusOneHalf = 1 := by decide

end IpaVerif.C08
