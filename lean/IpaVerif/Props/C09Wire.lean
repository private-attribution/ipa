import IpaVerif.Proofs.C09Serde
import IpaVerif.Proofs.C09Wire
import IpaVerif.Model.ReportPack
import IpaVerif.Generated.C09Wire
import IpaVerif.Generated.PrimeFields
/-!
# C09 — composite wire types, field packing, `Hybrid*Info` encodings

* the proof / hash arrays, `ProofDiff`, `UniqueTag`, `PrfHybridReport<BA8, BA3>` are type expressions of
  `Ty` (arrays, pairs, raw byte strings): the four laws are instances of `lawful_codecOf`;
* `pack_roundtrip`: `split_fields ∘ join_fields = id` for every list of field widths (and the converse
  modulo the share width), which is `Shuffleable::new(x.left(), x.right()) = x`;
* `Hybrid*Info::to_bytes / from_bytes` round-trip and accept only what `to_bytes` produces (`ReportPack.ConvInfo`,
  integer fields; `Model/ReportWire.lean` models the same bytes with byte-string fields for C10).
-/
namespace IpaVerif.C09
open IpaVerif.Util IpaVerif.Serde IpaVerif.ReportPack IpaVerif.Generated.Wire

def rawTy (bytes : Nat) : Ty := .bits { name := "raw", bits := 8 * bytes, bytes := bytes, fallible := false }

theorem rawTy_wf (n : Nat) : (rawTy n).WF := ⟨Nat.le_refl _, fun _ => rfl⟩

/-- `[Hash; MAX_PROOF_RECURSION]` -/
def hashArrTy : Ty := .arr maxProofRecursion (rawTy 32)
/-- `ProofDiff` -/
def proofDiffTy : Ty := .arr (maxProofRecursion + 1) (.prime IpaVerif.Generated.fp61)
/-- `Box<Array>` of a proof -/
def proofArrTy : Ty := .arr proofArrayLen (.prime IpaVerif.Generated.fp61)
/-- `UniqueTag` -/
def uniqueTagTy : Ty := rawTy uniqueTagBytes
/-- `PrfHybridReport<BA8, BA3>`: match key ‖ value share ‖ breakdown-key share -/
def prfTy : Ty :=
  .pair (rawTy prfMatchKeyBytes)
    (.pair (.share (.bits { name := "BA3", bits := 3, bytes := 1, fallible := true }))
      (.share (.bits { name := "BA8", bits := 8, bytes := 1, fallible := false })))

/-- All four laws for every composite wire type (round trip, length, only canonical accepted, total). -/
theorem composite_lawful :
    Lawful (codecOf hashArrTy) ∧ Lawful (codecOf proofDiffTy) ∧ Lawful (codecOf proofArrTy) ∧
      Lawful (codecOf uniqueTagTy) ∧ Lawful (codecOf prfTy) :=
  have fp61_wf : Ty.WF (.prime IpaVerif.Generated.fp61) :=
    show IpaVerif.Generated.fp61.p ≤ 256 ^ (IpaVerif.Generated.fp61.storeBits / 8) by decide
  ⟨lawful_codecOf _ (rawTy_wf _), lawful_codecOf _ fp61_wf, lawful_codecOf _ fp61_wf, lawful_codecOf _ (rawTy_wf _),
    lawful_codecOf _ ⟨rawTy_wf _, show BitTy.WF _ by decide, show BitTy.WF _ by decide⟩⟩

/-- the advertised sizes (`U448`, `U120`, `U<ARRAY_LEN>·8`, `U16`, `U12`) are the sizes of the codecs
(the third is the formula `8 · ARRAY_LEN` over the same constant; the others are extracted independently) -/
theorem composite_sizes :
    (codecOf hashArrTy).size = hashArrayBytes ∧ (codecOf proofDiffTy).size = proofDiffBytes ∧
      (codecOf proofArrTy).size = 8 * proofArrayLen ∧ (codecOf uniqueTagTy).size = uniqueTagBytes ∧
      (codecOf prfTy).size = prfReportBytes := by decide

/-- `Vec<T>::to_bytes` has length `len · T::Size` and decodes back row by row. -/
theorem vec_to_bytes_roundtrip (t : Ty) (h : t.WF) (rows : List t.Val) (hc : ∀ v ∈ rows, (codecOf t).canon v) :
    (encAll (codecOf t) rows).length = (codecOf t).size * rows.length ∧
      decAll (codecOf t) rows.length (encAll (codecOf t) rows) = .ok rows :=
  ⟨(encAll_length (lawful_codecOf t h) rows hc).1, decAll_encAll (lawful_codecOf t h) rows hc⟩

/-- Reading back the fields written by `join_fields` returns them, for every list
of field widths and all field values that fit their width. -/
theorem pack_roundtrip (fs : List (Nat × Nat)) (h : ∀ f ∈ fs, f.2 < 2 ^ f.1) :
    splitFields (fs.map (·.1)) (joinFields fs) = fs.map (·.2) := by
  rw [split_join]
  apply List.map_congr_left
  intro f hf
  exact Nat.mod_eq_of_lt (h f hf)

example : ∀ f ∈ [(64, 5), (3, 7), (8, 255)], f.2 < 2 ^ f.1 := by decide

/-- the packed share fits in `Σ widths` bits -/
theorem join_lt (fs : List (Nat × Nat)) : joinFields fs < 2 ^ (fs.map (·.1)).sum := by
  induction fs with
  | nil => simp [joinFields]
  | cons f fs ih =>
    obtain ⟨w, v⟩ := f
    have hpos : 0 < 2 ^ w := Nat.two_pow_pos w
    have hv : v % 2 ^ w < 2 ^ w := Nat.mod_lt _ hpos
    simp only [joinFields, List.map_cons, List.sum_cons, Nat.pow_add]
    have : 2 ^ w * joinFields fs + 2 ^ w ≤ 2 ^ w * 2 ^ (fs.map (·.1)).sum := by
      rw [← Nat.mul_succ]; exact Nat.mul_le_mul_left _ ih
    omega

/-- conversely, re-packing the fields read from a share returns the share (modulo its used width):
`Shuffleable::new` followed by `left()` loses nothing below `Σ widths`. -/
theorem join_split (ws : List Nat) (x : Nat) :
    joinFields (ws.zip (splitFields ws x)) = x % 2 ^ ws.sum := by
  induction ws generalizing x with
  | nil => simp [joinFields, splitFields, Nat.mod_one]
  | cons w ws ih =>
    simp only [splitFields, List.zip_cons_cons, joinFields, ih, Nat.mod_mod, List.sum_cons]
    rw [Nat.pow_add, Nat.mod_mul]

theorem impInfo_roundtrip (k : Nat) : impInfoDec (impInfoEnc k) = .ok k := rfl

theorem impInfo_canonical (bs : List Nat) (k : Nat) (h : impInfoDec bs = .ok k) : impInfoEnc k = bs := by
  match bs with
  | [] => cases h
  | [x] => cases h; rfl
  | _ :: _ :: _ => cases h

/-- canonical values of `HybridConversionInfo`: fields within their integer widths, the site domain
valid UTF-8 without NUL (the delimiter). -/
def _root_.IpaVerif.ReportPack.ConvInfo.Canon (c : ConvInfo) : Prop :=
  c.keyId < 256 ∧ c.timestamp < 256 ^ 8 ∧ c.epsilon < 256 ^ 8 ∧ c.sensitivity < 256 ^ 8 ∧
    utf8Valid c.domain = true ∧ ∀ b ∈ c.domain, b ≠ 0

theorem convInfo_length (c : ConvInfo) : (convInfoEnc c).length = c.domain.length + 1 + 1 + 8 + 8 + 8 := by
  simp only [convInfoEnc, List.length_append, List.length_cons, List.length_nil, beBytes_length]

/-- `from_bytes (to_bytes c) = c` for every canonical `HybridConversionInfo`. -/
theorem convInfo_roundtrip (c : ConvInfo) (h : c.Canon) : convInfoDec (convInfoEnc c) = .ok c := by
  obtain ⟨hk, ht, he, hs, hu, hn⟩ := h
  obtain ⟨f0, f1, f2, f3⟩ := tail_fields (k := c.keyId) (beBytes_length c.timestamp 8) (beBytes_length c.epsilon 8)
    (beBytes_length c.sensitivity 8) rfl
  rw [convInfoDec, convInfoEnc_eq, splitNul_append _ _ hn]
  simp only [hu, f0, f1, f2, f3, ofBeBytes_beBytes, Nat.mod_eq_of_lt ht, Nat.mod_eq_of_lt he, Nat.mod_eq_of_lt hs,
    Bool.not_true, Bool.false_eq_true, if_false, ne_eq, not_true_eq_false, List.getD_cons_zero]

/-- `from_bytes` accepts a byte string only if it is exactly what `to_bytes` produces for the decoded
value (no trailing bytes, no truncation), and the decoded value is canonical. -/
theorem convInfo_canonical (bs : List Nat) (c : ConvInfo) (hb : Bytes bs) (h : convInfoDec bs = .ok c) :
    convInfoEnc c = bs ∧ c.Canon := by
  obtain ⟨d, t, rfl, hn, hu, hl, rfl⟩ := convInfoDec_eq_ok h
  have hbt : Bytes t := fun x hx => hb x (List.mem_append_right _ (List.mem_cons_of_mem _ hx))
  have fld : ∀ a, a + 8 ≤ 25 → beBytes (ofBeBytes ((t.drop a).take 8)) 8 = (t.drop a).take 8 ∧
      ofBeBytes ((t.drop a).take 8) < 256 ^ 8 := fun a ha =>
    beBytes_ofBeBytes_8 (Bytes_take _ (Bytes_drop _ hbt)) (by rw [List.length_take, List.length_drop, hl]; omega)
  refine ⟨?_, getD_lt hbt 0, (fld 1 (by decide)).2, (fld 9 (by decide)).2, (fld 17 (by decide)).2, hu, hn⟩
  rw [convInfoEnc_eq, (fld 1 (by decide)).1, (fld 9 (by decide)).1, (fld 17 (by decide)).1, ← tail_eq_fields t hl]

end IpaVerif.C09
