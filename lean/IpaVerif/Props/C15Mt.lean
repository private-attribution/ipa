import IpaVerif.Generated.SeqJoinMt
import IpaVerif.Proofs.SeqJoinMtInv
import IpaVerif.Proofs.SeqJoinInv
/-!
# C15 — the multi-threaded sequential join yields every result once, in input order, none dropped

Model: `IpaVerif.Model.SeqJoinMt` (transcription of `seq_join/multi_thread.rs`: `poll_next` over an
`async_scoped` scope).  The theorems quantify over **every** number of tasks `n`, every capacity and
every schedule `envs`: per `poll_next` call, how many items the SOURCE is willing to yield before it
answers `Pending` (0 = the source itself is pending — at any moment, in particular when every task
drawn so far has completed and been yielded), and which spawned tasks have completed on their worker
threads.
-/
namespace IpaVerif.C15Mt
open IpaVerif.SeqJoinMt
open IpaVerif.SeqJoin (range_eq_append eq_range_of_prefix)

/-- Whatever the schedule — the source pending at any moment, also right
after the window has been fully drained; tasks completing on their threads in any order — the results
handed out by the multi-threaded join are `0,1,…,k-1` in this order (every task's result at most once,
in input order), and end-of-stream (`Ready(None)`) is answered only after ALL `n` results: nothing is
dropped. -/
theorem mt_yields_all_in_order (n cap : Nat) (envs : List Env) :
    let outs := (run (State.new n cap) envs).2
    items outs = List.range (items outs).length ∧ (items outs).length ≤ n ∧
    (∀ pre o post, outs = pre ++ o :: post → o = .finished → items pre = List.range n) := by
  intro outs
  obtain ⟨hI, _, hfin⟩ := run_spec envs (State.new n cap) [] (inv_new n cap)
  obtain ⟨h1, _, h3⟩ := range_eq_append ((List.append_assoc ..).symm.trans hI.order)
  exact ⟨h1, Nat.le.intro h3, hfin⟩

/-- In every reachable state, a call that answers `Ready(None)` finds the
source done (`Fuse::is_done`), the scope empty and no task left: a source that is merely PENDING
never ends the stream. -/
theorem mt_no_early_end (n cap : Nat) (envs : List Env) (env : Env) :
    let s := (run (State.new n cap) envs).1
    (step s env).2.1 = .finished →
      (step s env).1.srcDone = true ∧ (step s env).1.futs = [] ∧ (step s env).1.src = [] ∧
      items (run (State.new n cap) envs).2 = List.range n := by
  obtain ⟨hI, _, _⟩ := run_spec envs (State.new n cap) [] (inv_new n cap)
  exact (step_spec hI env).2.2

/-- The call the variant with the guard `len() > 0` (`len_guard_counterexample`) gets wrong: every task
drawn so far has completed and been yielded (`futs = []`), the source is open and answers `Pending` now
(`budget = 0`): the join answers `Pending` and its state is unchanged — for EVERY such state, whatever
was spawned before (`len`). -/
theorem mt_pending_when_drained_and_source_pending (s : State) (env : Env)
    (hf : s.futs = []) (hd : s.srcDone = false) (hs : s.src ≠ []) (hb : env.budget = 0) (hc : 0 < s.cap) :
    step s env = (s, .pending, 0) := by
  obtain ⟨t, rest, hsrc⟩ := List.exists_cons_of_ne_nil hs
  have hr : refill (s.cap + 1) s 0 env.budget = (s, 0) := by
    unfold refill
    simp [hf, hc, hd, hsrc, hb]
  exact step_drained_open hr hf hd

example : (0 : Nat) < 3 ∧ ({ src := [1, 2], srcDone := false, futs := [], len := 1, cap := 3 } : State).src ≠ [] := by decide

/-- After ANY schedule (pending sources, unfinished tasks, …), once the
source yields again and the tasks complete, the join hands out everything that is left and only then
answers end-of-stream: all `n` results, in input order. -/
theorem mt_completes_when_willing (n cap : Nat) (hc : 0 < cap) (envs : List Env) :
    let s := (run (State.new n cap) envs).1
    let outs := (run (State.new n cap) (envs ++ List.replicate (s.futs.length + s.src.length + 1) willing)).2
    Out.finished ∈ outs ∧ items outs = List.range n := by
  intro s outs
  obtain ⟨hI, hcap, _⟩ := run_spec envs (State.new n cap) [] (inv_new n cap)
  have hfin : Out.finished ∈ outs := by
    show Out.finished ∈ (run _ (_ ++ _)).2
    rw [run_append]
    exact List.mem_append_right _ (willing_drains _ s _ hI (by rw [hcap]; exact hc) rfl)
  refine ⟨hfin, ?_⟩
  obtain ⟨h1, h2, h3⟩ := mt_yields_all_in_order n cap (envs ++ List.replicate (s.futs.length + s.src.length + 1) willing)
  -- end-of-stream comes only after all `n` results, and no more than `n` are ever handed out
  obtain ⟨pre, post, hsplit⟩ := List.append_of_mem hfin
  exact eq_range_of_prefix h1 h2 ((congrArg items hsplit).trans (items_append ..)) (h3 pre .finished post hsplit rfl)

example : (0 : Nat) < 3 := by decide

/-- The guard in front of the scope poll regenerated from
`multi_thread.rs` is `this.spawner.remaining() > 0` (tasks IN FLIGHT), the refill loop runs while
`remaining() < capacity`, and the three arms are the modelled ones, in order. -/
theorem mt_guard_is_remaining :
    IpaVerif.Generated.SeqJoinMt.pollGuard = "this.spawner.remaining() > 0" ∧
    IpaVerif.Generated.SeqJoinMt.refillCondition = "this.spawner.remaining() < *this.capacity" ∧
    IpaVerif.Generated.SeqJoinMt.pollArms =
      ["if this.spawner.remaining() > 0 => this.spawner.as_mut().poll_next(cx).map(..)",
       "else if this.source.is_done() => Poll::Ready(None)",
       "else => Poll::Pending"] := ⟨rfl, rfl, rfl⟩

/-- The variant `if this.spawner.len() > 0`.  Three tasks, window 3: the
source hands out task 0, which completes and is yielded; at the next call the source is PENDING and
nothing is in flight — the variant polls the empty scope, gets `Ready(None)` and ends the stream with
tasks 1 and 2 never drawn, although the source is not done; later calls keep answering end-of-stream
even when the source would yield again.  The code's guard answers `Pending` there and yields all three. -/
theorem len_guard_counterexample :
    let drained : Env := { budget := 0, done := fun _ => true }
    let envs := [{ budget := 1, done := fun _ => true }, drained, { budget := 5, done := fun _ => true },
      willing, willing, willing]
    (runWith guardLen (State.new 3 3) envs).2.take 2 = [.item 0, .finished] ∧
    (runWith guardLen (State.new 3 3) (envs.take 2)).1.srcDone = false ∧
    (runWith guardLen (State.new 3 3) (envs.take 2)).1.src = [1, 2] ∧
    (run (State.new 3 3) envs).2 = [.item 0, .pending, .item 1, .item 2, .finished, .finished] := by
  decide

end IpaVerif.C15Mt
